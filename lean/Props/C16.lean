import Proofs.Values
/-!
# C16 — a size-bounded merge keeps exactly the newest entries of the full merge

`join A B.id B.entries B.heads n` with `n ≥ 0`, for replicas of one log satisfying the invariant
(every reachable replica does).  The result type of `join` has no panic outcome; a panic of the Go
function is an outcome the harness records (`SPEC C16 joinNoPanic`).
-/
namespace Model.C16

/-- the state a bounded join leaves -/
def joinN (A B : Log) (n : Int) : Log := joinClock (joinTrim (joinMerge A B.entries B.heads) n)

theorem join_bounded_eq (A B : Log) (hid : A.id = B.id) (n : Int) :
    join A B.id B.entries B.heads n = .ok (joinN A B n) := by
  unfold join
  simp [hid, joinN]

theorem joinN_entries_eq (A B : Log) (n : Int) (hn : n > -1) :
    (joinN A B n).entries = omFromList (keepLast n (values (joinU A B))) :=
  values_merge_eq A B ▸ joinTrim_entries _ hn

theorem joinN_heads_eq (A B : Log) (n : Int) (hn : n > -1) :
    (joinN A B n).heads = omFromList (findHeads (joinN A B n).entries) :=
  joinTrim_heads _ hn

/-- the kept entries are exactly the last `min n total` values of the unbounded merge's linearisation -/
theorem bounded_entries {U : List Entry} (hU : (hashes U).Nodup) {A B : Log} (IA : Inv U A) (IB : Inv U B)
    (hid : A.id = B.id) (ho : OrderOk A.sortFn (joinU A B).entries) (n : Int) (hn : 0 ≤ n) :
    (joinN A B n).entries = (values (joinU A B)).drop ((values (joinU A B)).length - n.toNat) := by
  have IJ := inv_join hU IA IB hid
  have hvn : (hashes (values (joinU A B))).Nodup := ((values_perm IJ ho).map _).nodup_iff.mpr IJ.nodup
  rw [joinN_entries_eq A B n (by omega), keepLast_eq_drop (by omega)]
  exact omFromList_eq_self (((List.drop_sublist _ _).map _).nodup hvn)

/-- its heads are the unreferenced entries among the kept ones -/
theorem bounded_heads (A B : Log) (n : Int) (hn : n > -1) (x : Entry) :
    x ∈ (joinN A B n).heads ↔ x ∈ (joinN A B n).entries ∧ ¬ namedBy (joinN A B n).entries x.hash := by
  have hnd : (hashes (findHeads (joinN A B n).entries)).Nodup :=
    findHeads_nodup (joinN_entries_eq A B n hn ▸ omFromList_nodup _)
  rw [joinN_heads_eq A B n hn, omFromList_eq_self hnd, mem_findHeads]

/-- a bound at least as large as the merged size behaves like the unbounded merge -/
theorem bound_beyond_total {U : List Entry} (hU : (hashes U).Nodup) {A B : Log} (IA : Inv U A) (IB : Inv U B)
    (hid : A.id = B.id) (ho : OrderOk A.sortFn (joinU A B).entries) (n : Int)
    (hn : ((joinU A B).entries.length : Int) ≤ n) (hn0 : 0 ≤ n) :
    (∀ x, x ∈ (joinN A B n).entries ↔ x ∈ (joinU A B).entries) ∧
    (∀ x, x ∈ (joinN A B n).heads ↔ x ∈ (joinU A B).heads) := by
  have IJ := inv_join hU IA IB hid
  have hp := values_perm IJ ho
  have hlen : (values (joinU A B)).length = (joinU A B).entries.length := hp.length_eq
  have hE : ∀ x, x ∈ (joinN A B n).entries ↔ x ∈ (joinU A B).entries := fun x => by
    rw [bounded_entries hU IA IB hid ho n (by omega), show (values (joinU A B)).length - n.toNat = 0 by omega,
      List.drop_zero]
    exact hp.mem_iff
  exact ⟨hE, fun x => by rw [bounded_heads A B n (by omega), hE, namedBy_congr hE, IJ.mem_heads]⟩

end Model.C16
