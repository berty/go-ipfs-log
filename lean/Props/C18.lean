import Proofs.Codec
/-!
# C18 — with a link key, stored blocks never reveal the log's structure

`storedView C cidStr (some k) e` is what `CreateEntryWithIO` stores for an entry created through a
codec with link key `k`: `PreSign` (seal the CBOR of the links under a nonce derived from the entry,
put ciphertext and nonce in the additional data), then `Write` (`Normalize`, `ToJsonableEntry`,
`cbornode.WrapObject`).  `LinkEntry e` collects what is assumed of the entry: version ≥ 2 (what
`CreateEntry` sets), at least one link, a clock, byte-valued fields, defined links that fit the heads.
`CryptoLaws C` are the ideal laws of secretbox/SHA3 for 32-byte keys (`keyOk`).

Proved: the clear-text part.  The stored value has empty `next`/`refs`, and its block contains no
IPLD link (tag 42) at all — `cborEntry` emits tag 42 only for elements of those two lists.  That the
ciphertext does not *reveal* the identifiers is the confidentiality of secretbox: assumed, and checked
on real bytes by the `codec` stream (binary and string forms of every link searched in the block).
-/
namespace Model.C18
open Model Model.Cbor Model.Codec

/-- the stored value has no predecessor and no reference -/
theorem stored_links_empty (C : Crypto) (cidStr : Bytes → Bytes) (k : Bytes) (e : PEntry) (h : LinkEntry e) :
    ∃ j, storedView C cidStr (some k) e = .ok (.v2 j) ∧ j.next = some [] ∧ j.refs = some [] := by
  obtain ⟨ref, hs⟩ := storedView_eq C cidStr k e h
  exact ⟨_, hs, rfl, rfl⟩

/-- in general a block carries tag 42 exactly when it has a clear-text link -/
theorem tag42_iff_links (j : JEntry) :
    hasTag42 (entryItem j) = (decide (lenOpt j.next ≠ 0) || decide (lenOpt j.refs ≠ 0)) := by
  have he : hasTag42Map (encLinksFields j) = false := by
    unfold encLinksFields
    split <;> split <;> simp [hasTag42Map, hasTag42]
  simp only [entryItem, hasTag42, hasTag42Map_append, he, hasTag42Map, hasTag42_linksItem, hasTag42_clockItem,
    hasTag42_identityItem]
  simp

/-- the stored block contains no IPLD link: nothing a block store could traverse -/
theorem stored_no_tag42 (C : Crypto) (cidStr : Bytes → Bytes) (k : Bytes) (e : PEntry) (h : LinkEntry e) :
    ∃ j, storedView C cidStr (some k) e = .ok (.v2 j) ∧ hasTag42 (entryItem j) = false := by
  obtain ⟨ref, hs⟩ := storedView_eq C cidStr k e h
  refine ⟨_, hs, ?_⟩
  rw [tag42_iff_links]
  simp [storedJ, lenOpt]

/-- a reader holding the same key recovers identical predecessor and reference lists -/
theorem same_key_recovers (C : Crypto) (L : CryptoLaws C) (cidStr : Bytes → Bytes) (k : Bytes) (hk : keyOk k)
    (e : PEntry) (h : LinkEntry e) :
    ∃ j j', storedView C cidStr (some k) e = .ok (.v2 j) ∧ decryptLinks C (some k) j = .ok j' ∧
      j'.next = uniqOpt e.next ∧ j'.refs = uniqOpt e.refs := by
  obtain ⟨ref, hs⟩ := storedView_eq C cidStr k e h
  exact ⟨_, _, hs, decryptLinks_same_key C L k ref e hk h, rfl, rfl⟩

/-- `uniqueCIDs` only removes repetitions: on lists without repetition (what `Append` builds) the
    recovered lists are the original ones -/
theorem uniq_of_nodup (l : List Bytes) (h : l.Nodup) : uniq l = l := uniq_eq_self h

/-- a reader without key obtains no links from the block -/
theorem no_key_no_links (C : Crypto) (cidStr : Bytes → Bytes) (k : Bytes) (e : PEntry) (h : LinkEntry e) (hh : Bytes) :
    ∃ j e', storedView C cidStr (some k) e = .ok (.v2 j) ∧ decodeJEntry C none hh j = .ok e' ∧
      e'.next = some [] ∧ e'.refs = some [] := by
  obtain ⟨ref, hs⟩ := storedView_eq C cidStr k e h
  have : toPlainEntry (storedJ C k ref e) = _ := toPlain_storedJ_links C k ref e h.henc (some []) (some [])
  refine ⟨_, { e with next := some [], refs := some [], hash := some hh, add := [] }, hs, ?_, rfl, rfl⟩
  simp only [decodeJEntry, decryptLinks_no_key, Outcome.ok_bind, this]

/-- a reader with a different key obtains an error (hence no entry, no links) -/
theorem other_key_error (C : Crypto) (L : CryptoLaws C) (cidStr : Bytes → Bytes) (k k' : Bytes) (hk : keyOk k)
    (hk' : keyOk k') (hne : k ≠ k') (e : PEntry) (h : LinkEntry e) (hh : Bytes) :
    ∃ j, storedView C cidStr (some k) e = .ok (.v2 j) ∧ decodeJEntry C (some k') hh j = .err .decrypt := by
  obtain ⟨ref, hs⟩ := storedView_eq C cidStr k e h
  refine ⟨_, hs, ?_⟩
  simp only [decodeJEntry, decryptLinks_other_key C L k k' ref e hk hk' hne h, Outcome.err_bind]

/-- the entry read back with the same key verifies exactly when the created entry does: `PreSign`
    reproduces the same additional data, so the signed bytes are the same (`sigOk` is the signature
    check on the hashable value; the entry carries no other additional data) -/
theorem verify_after_read (C : Crypto) (cidStr : Bytes → Bytes) (k : Bytes) (sigOk : Hashable → Bytes → Bytes → Bool)
    (e : PEntry) (hh : Bytes) (h : LinkEntry e) (hadd : e.add = []) :
    opVerify C cidStr (some k) sigOk (readBack e hh) = opVerify C cidStr (some k) sigOk e := by
  obtain ⟨p, h1, h2⟩ := preSign_readBack C cidStr k e hh h hadd
  simp only [opVerify, h1, h2, Outcome.ok_bind, toHashable_hash_irrelevant]
  rfl

/-- caveat made explicit: the version-1 struct has no encrypted-link fields, so an entry written
    with `V = 1` through `ToMultihashWithIO` keeps its links in clear even under a link key
    (`CreateEntryWithIO` always sets `V = 2`, so the library itself never does this) -/
theorem v1_links_in_clear (cidStr : Bytes → Bytes) (e : PEntry) (hv : e.v = 1) (h : e.encodable) :
    ∃ j, jsonOf cidStr e = .ok (.v1 j) ∧ j.next = e.next :=
  ⟨_, jsonOf_v1 cidStr e hv h, rfl⟩

/-! ### the hypotheses are satisfiable -/

/-- a toy cipher that meets `CryptoLaws`: the ciphertext is key ++ message -/
def toyCrypto : Crypto :=
  { sealBox := fun k _ m => k ++ m
    openBox := fun k _ c => if c.take 32 = k then some (c.drop 32) else none
    deriveNonce := fun _ => [0] }

theorem toyCrypto_laws : CryptoLaws toyCrypto where
  open_seal := by
    intro k n m hk
    have h1 : (k ++ m).take 32 = k := hk.1 ▸ take_len_append k m
    have h2 : (k ++ m).drop 32 = m := hk.1 ▸ drop_len_append k m
    simp [toyCrypto, h1, h2]
  wrong_key := by
    intro k k' n m hk _ hne
    have h1 : (k ++ m).take 32 = k := hk.1 ▸ take_len_append k m
    simp [toyCrypto, h1, hne]
  seal_bytes := by
    intro k n m hk hm
    simp [toyCrypto, isBytes_append, hk.2, hm]
  seal_ne := by
    intro k n m hk
    have : k ≠ [] := by intro h; have := hk.1; simp [h] at this
    simp [toyCrypto, this]
  nonce_bytes := by intro x; simp [toyCrypto, isBytes]
  nonce_ne := by intro x; simp [toyCrypto]

def sampleEntry : PEntry :=
  { payload := [104, 255, 0], logId := [65], next := some [[1, 113, 18, 1, 7], [1, 113, 18, 1, 7], [1, 113, 18, 2]],
    refs := some [[1, 113, 18, 3]], v := 2, key := [4, 200], sig := [48, 1], clock := some { id := [4, 200], time := 5 } }

theorem sample_linkEntry : LinkEntry sampleEntry where
  hv := by decide
  hlinks := by decide
  henc := ⟨by decide, by decide, ⟨_, rfl, by decide⟩, fun i hi => by simp [sampleEntry] at hi⟩
  hdefN := by decide
  hdefR := by decide
  hwfN := ⟨by decide, by decide⟩
  hwfR := ⟨by decide, by decide⟩
  hbN := by intro c hc; simp at hc; rcases hc with rfl | rfl <;> decide
  hbR := by intro c hc; simp at hc; subst hc; decide

def sampleKey : Bytes := List.replicate 32 7

theorem sampleKey_ok : keyOk sampleKey := ⟨by decide, by decide⟩

example : ∃ j j', storedView toyCrypto id (some sampleKey) sampleEntry = .ok (.v2 j) ∧
    decryptLinks toyCrypto (some sampleKey) j = .ok j' ∧
    j'.next = some [[1, 113, 18, 1, 7], [1, 113, 18, 2]] ∧ j'.refs = some [[1, 113, 18, 3]] := by
  obtain ⟨j, j', a, b, c, d⟩ := same_key_recovers toyCrypto toyCrypto_laws id sampleKey sampleKey_ok sampleEntry sample_linkEntry
  exact ⟨j, j', a, b, c.trans (by decide), d.trans (by decide)⟩

end Model.C18
