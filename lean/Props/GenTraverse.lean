import Generated.GenTraverse
import Props.GenCommon
import Proofs.Traverse
/-!
# Props.GenTraverse — `IPFSLog.traverse` (log.go), translated, is the model's `travLoop` / `traverseG`

The `for cond` loop is a recursion on fuel.  The visited set is compared up to membership (`SameSet`): the code
inserts a hash into a map, the model conses it to a list.  The code writes `""` for "no end hash"; that is the
model's `none` as long as no entry in sight has the empty hash (`travLoop_nil_none`).
-/
namespace Model.SlicesGen
open Model Model.Go Model.Codec

/-- the loop over `e.next`, against the model's `pushNexts` -/
theorem traverseInner_eq (E : List Entry) : ∀ (cs : List Hash) (stack : List Entry) (trav traversed : List Hash) (m : Bool),
    SameSet traversed trav →
    let g := cs.foldl (fun (x : List Entry × List Hash × Bool) c =>
      if (!(get? E c).isSome) = true then (x.1, x.2.1, x.2.2)
      else if x.2.1.contains ((get? E c).getD default).hash = true then (x.1, x.2.1, x.2.2)
      else ([(get? E c).getD default] ++ x.1, setInsert x.2.1 ((get? E c).getD default).hash, true)) (stack, traversed, m)
    let r := pushNexts E cs (stack, trav, m)
    g.2.2 = r.2.2 ∧ g.1 = r.1 ∧ SameSet g.2.1 r.2.1 := by
  intro cs
  induction cs with
  | nil => intro stack trav traversed m hs; exact ⟨rfl, rfl, hs⟩
  | cons c cs ih =>
    intro stack trav traversed m hs
    simp only [List.foldl_cons, pushNexts]
    cases get? E c with
    | none => simpa using ih stack trav traversed m hs
    | some n =>
      simp only [Option.isSome_some, Bool.not_true, Bool.false_eq_true, if_false, Option.getD_some]
      rw [hs n.hash]
      by_cases hc : trav.contains n.hash = true
      · simp only [hc, if_true]; exact ih stack trav traversed m hs
      · simp only [hc, Bool.false_eq_true, if_false]
        exact ih (n :: stack) (n.hash :: trav) (setInsert traversed n.hash) true (sameSet_insert hs n.hash)

theorem traverseLoop_eq (E : List Entry) (lt : Entry → Entry → Bool) (roots : List Entry) (amount : Int) (ehs : Hash) :
    ∀ (fuel : Nat) (stack : List Entry) (trav traversed : List Hash) (res : List Entry) (count : Int),
      SameSet traversed trav →
      (Generated.Go.traverse_loop1 E lt roots amount ehs fuel (stack, traversed, res, count)).2.2.1 =
        travLoop E lt amount (some ehs) fuel stack trav res count := by
  intro fuel
  induction fuel with
  | zero => intro stack trav traversed res count _; cases stack <;> rfl
  | succ fuel ih =>
    intro stack trav traversed res count hs
    cases stack with
    | nil => simp [Generated.Go.traverse_loop1, travLoop]
    | cons e rest =>
      unfold Generated.Go.traverse_loop1 travLoop
      have hlen : ((e :: rest).length : Int) > 0 := Int.natCast_pos.mpr (Nat.succ_pos _)
      simp only [Bool.and_eq_true, Bool.or_eq_true, decide_eq_true_eq, hlen, true_and, beq_iff_eq]
      by_cases hc : amount < 0 ∨ count < amount
      · rw [if_pos hc, if_pos hc]
        by_cases he : e.hash = ehs
        · rw [if_pos he, if_pos (congrArg some he.symm)]
        · rw [if_neg he, if_neg (fun h => he (Option.some.inj h).symm)]
          obtain ⟨h1, h2, h3⟩ := traverseInner_eq E e.next rest (e.hash :: trav) (setInsert traversed e.hash) false
            (sameSet_insert hs e.hash)
          rw [h1, h2]
          exact ih _ _ _ _ _ h3
      · rw [if_neg hc, if_neg hc]

theorem traverse_eq_some (fuel : Nat) (E : List Entry) (lt : Entry → Entry → Bool) (roots : List Entry) (amount : Int) (ehs : Hash) :
    Generated.Go.traverse fuel E lt roots amount ehs =
      some (travLoop E lt amount (some ehs) fuel (goSort lt roots) [] [] 0) := by
  unfold Generated.Go.traverse
  dsimp only
  rw [traverseLoop_eq E lt roots amount ehs fuel (goSort lt roots) [] [] [] 0 (fun _ => rfl)]

theorem travLoop_nil_none (E : List Entry) (lt : Entry → Entry → Bool) (amount : Int) (hE : ∀ e ∈ E, e.hash ≠ []) :
    ∀ (fuel : Nat) (stack : List Entry) (trav : List Hash) (res : List Entry) (count : Int),
      (∀ e ∈ stack, e.hash ≠ []) →
      travLoop E lt amount (some []) fuel stack trav res count = travLoop E lt amount none fuel stack trav res count := by
  intro fuel
  induction fuel with
  | zero => intro stack trav res count _; cases stack <;> rfl
  | succ fuel ih =>
    intro stack trav res count hst
    cases stack with
    | nil => rfl
    | cons e rest =>
      have he : ¬ (some ([] : Hash) = some e.hash) := fun h => hst e List.mem_cons_self (Option.some.inj h).symm
      rw [travLoop_cons, travLoop_cons, if_neg he, if_neg (show ¬ (none = some e.hash) from fun h => nomatch h)]
      split
      · exact ih _ _ _ _ fun x hx => (mem_nxtStack_cases hx).elim (fun h => hst x (List.mem_cons_of_mem _ h))
          (fun ⟨_, _, hg⟩ => hE x (get?_mem hg).1)
      · rfl

theorem traverse_eq_fuel (fuel : Nat) (E : List Entry) (lt : Entry → Entry → Bool) (roots : List Entry) (amount : Int)
    (eh : Option Hash) (hne : eh = none → (∀ e ∈ E, e.hash ≠ []) ∧ (∀ e ∈ roots, e.hash ≠ [])) :
    Generated.Go.traverse fuel E lt roots amount (eh.getD []) =
      some (travLoop E lt amount eh fuel (goSort lt roots) [] [] 0) := by
  rw [traverse_eq_some]
  cases eh with
  | some h => rfl
  | none =>
    obtain ⟨h1, h2⟩ := hne rfl
    exact congrArg some (travLoop_nil_none E lt amount h1 _ _ _ _ _ fun e he => h2 e (mem_goSort.mp he))

theorem traverse_eq (E : List Entry) (lt : Entry → Entry → Bool) (roots : List Entry) (amount : Int) (eh : Option Hash)
    (hne : eh = none → (∀ e ∈ E, e.hash ≠ []) ∧ (∀ e ∈ roots, e.hash ≠ [])) :
    Generated.Go.traverse (traverseFuel E roots) E lt roots amount (eh.getD []) =
      some (traverseG E lt roots amount eh) :=
  traverse_eq_fuel _ E lt roots amount eh hne

end Model.SlicesGen
