import Props.GenCapstoneJoin
import Props.GenCapstoneAppend
import Props.GenCapstoneViews
import Props.GenCapstoneRebuild
import Props.GenCapstoneIter
import Props.GenCapstoneBounded
import Proofs.System
/-!
# Props.GenCapstoneSystem — every history of the TRANSLATED operations

`TReach U L`: the replicas `L` (with the universe `U` of entries created so far) are what some finite history of
operations leaves, where each operation is performed **by the code as translated from the Go source**: an `Append`
— only on a replica whose ordering is a strict total order on its entries (`OrderOk`, a premise of the constructor:
it is what makes the model's fuel suffice) — is the translated plan followed by the translated tail (the created
entry gets a fresh non-empty CID; lists de-duplicated by the translated `uniqueCIDs`), a `Join` is the translated
`difference` followed by the translated tail of `Join`, a `SetIdentity` is the translated clock update, a load
(`NewFromJSON` of a replica's entries as some complete fetch delivered them, any order) is the translated glue of
`fromJSON` followed by the translated core of `NewLog` and adds a replica.  Beyond these premises the constructors
only say "the translated function returned this"; of the hand-written model they mention the fuel, the ordering
function the log is configured with, and `values` as the parameter that stands for the call `l.values()` inside
`Join` (not reached when the size is `-1`, as it is here).

`treach_inv`: after any such history every replica satisfies the structural invariant, all have one id, hashes are
distinct and non-empty (`TInv`).  The theorems after it read the capstones of the single operations through it;
`treach_can_append`, `treach_can_join` are progress: the translated operations do return on reachable states.
-/
namespace Model.Capstone
open Model Model.Go Model.SlicesGen

structure TInv (U : List Entry) (L : List Log) : Prop where
  uNodup : (hashes U).Nodup
  uNe : ∀ e ∈ U, e.hash ≠ []
  inv : ∀ l ∈ L, Inv U l
  sameId : ∀ a ∈ L, ∀ b ∈ L, a.id = b.id

inductive TReach : List Entry → List Log → Prop
  | init (L : List Log) (id : Bytes) (h : ∀ l ∈ L, ∃ cid k, l = emptyLog id cid k) : TReach [] L
  | append {U : List Entry} {L : List Log} (r : TReach U L) (i : Nat) (l : Log) (hl : L[i]? = some l)
      (ho : OrderOk l.sortFn l.entries) (pc : Int) (h : Hash) (tag : Nat) (hf : h ∉ hashes U) (hne : h ≠ [])
      (next refs : List Hash) (t : Int) (E' : List Entry) (N' : List Hash) (H' : List Entry)
      (hp : Generated.Go.appendPlan (traverseFuel l.entries (sortedHeads l)) l.entries (before l.sortFn) l.heads
              l.clock.id l.clock.time pc = some (next, refs, l.clock.id, t))
      (ht : Generated.Go.appendTail l.entries l.nextIdx l.heads (createdEntry l h tag next refs t) next = some (E', N', H')) :
      TReach (U ++ [createdEntry l h tag next refs t])
        (L.set i { l with entries := E', nextIdx := N', heads := H', clock := ⟨l.clock.id, t⟩ })
  | join {U : List Entry} {L : List Log} (r : TReach U L) (i j : Nat) (A B : Log) (hA : L[i]? = some A) (hB : L[j]? = some B)
      (cands E' : List Entry) (N' : List Hash) (H' : List Entry) (t : Int)
      (hd : Generated.Go.logDifference (diffFuel B.entries B.heads) B.entries B.heads A.entries A.id = some cands)
      (ht : Generated.Go.joinTail (fun E H => values { A with entries := E, heads := H })
              A.entries A.nextIdx A.heads A.clock.id A.clock.time cands B.heads (-1) = some (A.clock.id, t, E', N', H')) :
      TReach U (L.set i { A with entries := E', nextIdx := N', heads := H', clock := ⟨A.clock.id, t⟩ })

  | setIdentity {U : List Entry} {L : List Log} (r : TReach U L) (i : Nat) (l : Log) (hl : L[i]? = some l) (cid : Bytes)
      (cid' : Bytes) (t' : Int)
      (hs : Generated.Go.setIdentity l.heads l.clock.id l.clock.time cid = (cid', t')) :
      TReach U (L.set i { l with clock := ⟨cid', t'⟩ })
  | load {U : List Entry} {L : List Log} (r : TReach U L) (l : Log) (hl : l ∈ L) (fetched : List Entry)
      (hnd : (hashes fetched).Nodup) (hin : ∀ e ∈ fetched, e ∈ U)
      (hset : ∀ h, h ∈ hashes fetched ↔ h ∈ hashes l.entries) (cid : Bytes)
      (ents : List Entry) (t : Int) (H : List Entry) (N : List Hash)
      (hf : Generated.Go.fromJSONTail none fetched = some ents)
      (hn : Generated.Go.newLogCore none [] ents = (t, H, N)) :
      TReach U (L ++ [{ id := l.id, entries := ents, heads := H, nextIdx := N, clock := ⟨cid, t⟩, sortFn := l.sortFn }])

theorem TInv.hash_ne {U : List Entry} {L : List Log} (T : TInv U L) {l : Log} (hl : l ∈ L) :
    ∀ e ∈ l.entries, e.hash ≠ [] := fun e he => T.uNe e ((T.inv l hl).inU e he)

/-- a replica `l` gives way to (or is joined by) a log `l'` of the same id that satisfies the invariant -/
theorem TInv.replace {U : List Entry} {L L' : List Log} (T : TInv U L) {l l' : Log} (hl : l ∈ L)
    (hinv : Inv U l') (hid : l'.id = l.id) (hL' : ∀ x ∈ L', x ∈ L ∨ x = l') : TInv U L' where
  uNodup := T.uNodup
  uNe := T.uNe
  inv := fun x hx => (hL' x hx).elim (T.inv x) (fun h => h ▸ hinv)
  sameId := by
    have key : ∀ x ∈ L', x.id = l.id := fun x hx =>
      (hL' x hx).elim (fun h => T.sameId x h l hl) (fun h => h ▸ hid)
    exact fun a ha b hb => (key a ha).trans (key b hb).symm

theorem mem_or_eq_of_mem_snoc {α : Type} {L : List α} {v : α} (x : α) (hx : x ∈ L ++ [v]) : x ∈ L ∨ x = v :=
  (List.mem_append.mp hx).imp_right List.mem_singleton.mp

theorem TInv.grow {U : List Entry} {L : List Log} (T : TInv U L) {e : Entry} (hf : e.hash ∉ hashes U) (hne : e.hash ≠ []) :
    TInv (U ++ [e]) L where
  uNodup := nodup_hashes_snoc T.uNodup hf
  uNe := fun x hx => (mem_or_eq_of_mem_snoc x hx).elim (T.uNe x) (fun h => h ▸ hne)
  inv := fun x hx => inv_mono_universe (fun _ => List.mem_append_left _) (T.inv x hx)
  sameId := T.sameId

theorem treach_inv {U : List Entry} {L : List Log} (r : TReach U L) : TInv U L := by
  induction r with
  | init L id h =>
    refine ⟨List.nodup_nil, (fun _ he => by cases he), ?_, ?_⟩
    · intro l hl
      obtain ⟨cid, k, rfl⟩ := h l hl
      exact inv_emptyLog _ _ _ _
    · intro a ha b hb
      obtain ⟨c1, k1, rfl⟩ := h a ha
      obtain ⟨c2, k2, rfl⟩ := h b hb
      rfl
  -- the translated functions are functions: what they returned is what the capstone of the step speaks about
  | @append U L _ i l hl ho pc h tag hf hne next refs t E' N' H' hp ht ih =>
    have hlm : l ∈ L := List.mem_of_getElem? hl
    obtain ⟨_, _, _, _, _, _, hp', ht', _, _, hinv⟩ := translated_append (ih.inv l hlm) ho (ih.hash_ne hlm) pc h tag hf
    cases hp'.symm.trans hp
    cases ht'.symm.trans ht
    exact (ih.grow hf hne).replace hlm hinv rfl fun _ => List.mem_or_eq_of_mem_set
  | @join U L _ i j A B hA hB cands E' N' H' t hd ht ih =>
    have hAm : A ∈ L := List.mem_of_getElem? hA
    have hBm : B ∈ L := List.mem_of_getElem? hB
    obtain ⟨_, _, _, _, _, hd', ht', hinv⟩ :=
      translated_join_preserves_inv ih.uNodup (ih.inv A hAm) (ih.inv B hBm) (ih.sameId A hAm B hBm)
    cases hd'.symm.trans hd
    cases ht'.symm.trans ht
    exact ih.replace hAm hinv rfl fun _ => List.mem_or_eq_of_mem_set
  | @setIdentity U L _ i l hl cid cid' t' hs ih =>
    have hlm : l ∈ L := List.mem_of_getElem? hl
    cases (setIdentity_eq l cid).symm.trans hs
    exact ih.replace hlm (inv_setIdentity (ih.inv l hlm) cid) rfl fun _ => List.mem_or_eq_of_mem_set
  | @load U L _ l hl fetched hnd hin hset cid ents t H N hf hn ih =>
    obtain ⟨_, _, _, _, hf', hn', _, _, hinv⟩ := translated_rebuild_json ih.uNodup (ih.inv l hl) fetched hnd hin hset cid
    cases hf'.symm.trans hf
    cases hn'.symm.trans hn
    exact ih.replace hl hinv rfl mem_or_eq_of_mem_snoc

theorem snapshot_of_inv {U : List Entry} (hne : ∀ e ∈ U, e.hash ≠ []) {l : Log} (I : Inv U l) :
    Generated.Go.toSnapshot (traverseFuel l.entries l.heads) l.entries (before l.sortFn) l.heads =
      some (hashes l.heads, values l) :=
  toSnapshot_eq l (fun e he => hne e (I.inU e he)) (fun e he => hne e (I.inU e (I.headsIn e he)))

/-- **C02 and C03 for every replica of every state reachable by the translated operations**, observed through the
    translated `ToSnapshot`: heads that are exactly the unreferenced entries; values that hold every entry exactly once,
    causally ordered and sorted (under the ordering hypothesis of C03: a strict total order on the entries present) -/
theorem translated_system_snapshot {U : List Entry} {L : List Log} (r : TReach U L) {l : Log} (hl : l ∈ L)
    (ho : OrderOk l.sortFn l.entries) :
    ∃ hs vs, Generated.Go.toSnapshot (traverseFuel l.entries l.heads) l.entries (before l.sortFn) l.heads = some (hs, vs) ∧
      (∀ h, h ∈ hs ↔ ∃ e ∈ l.entries, e.hash = h ∧ ¬ namedBy l.entries h) ∧ hs.Nodup ∧
      vs.Perm l.entries ∧ vs.Nodup ∧
      vs.Pairwise (fun a b => b.hash ∉ a.next) ∧
      vs.Pairwise (fun a b => before l.sortFn b a = true) := by
  have T := treach_inv r
  exact translated_snapshot (T.inv l hl) ho (T.hash_ne hl)

/-- **C01 on the generated code**: two replicas of a state reachable by the translated operations that hold the same
    hashes — whatever the order, grouping or repetition of the merges that brought them there — show, through the
    translated `ToSnapshot`, the same set of heads and, under an ordering that is a strict total order on those
    entries, the identical sequence of values -/
theorem translated_convergence {U : List Entry} {L : List Log} (r : TReach U L) {a b : Log} (ha : a ∈ L) (hb : b ∈ L)
    (hH : ∀ h, h ∈ hashes a.entries ↔ h ∈ hashes b.entries) (hsf : a.sortFn = b.sortFn)
    (ho : OrderOk a.sortFn a.entries) :
    ∃ hs₁ hs₂ vs,
      Generated.Go.toSnapshot (traverseFuel a.entries a.heads) a.entries (before a.sortFn) a.heads = some (hs₁, vs) ∧
      Generated.Go.toSnapshot (traverseFuel b.entries b.heads) b.entries (before b.sortFn) b.heads = some (hs₂, vs) ∧
      (∀ h, h ∈ hs₁ ↔ h ∈ hs₂) := by
  have T := treach_inv r
  obtain ⟨_, hheads, hv⟩ := inv_convergence T.uNodup (T.inv a ha) (T.inv b hb) hH
  exact ⟨hashes a.heads, hashes b.heads, values a, snapshot_of_inv T.uNe (T.inv a ha),
    hv hsf ho ▸ snapshot_of_inv T.uNe (T.inv b hb), fun h => by simp only [hashes, List.mem_map, hheads]⟩

/-- **C15 for every replica of every reachable state**: the translated `Iterator` without bounds sends exactly what
    the translated `ToSnapshot` lists as values, newest first; with any options, what it sends are entries of the
    log, at most `amount` of them -/
theorem translated_system_iterator {U : List Entry} {L : List Log} (r : TReach U L) {l : Log} (hl : l ∈ L)
    (ho : OrderOk l.sortFn l.entries) :
    (∃ hs vs, Generated.Go.toSnapshot (traverseFuel l.entries l.heads) l.entries (before l.sortFn) l.heads = some (hs, vs) ∧
      Generated.Go.iterator (iterFuel l {}) l.entries (before l.sortFn) l.heads none none none none none = some vs.reverse) ∧
    (∀ (o : IterOpts) (out : List Entry), (∀ h, o.gte = some h → h ≠ []) → (∀ h, o.gt = some h → h ≠ []) →
      Generated.Go.iterator (iterFuel l o) l.entries (before l.sortFn) l.heads o.amount o.lte o.lt o.gte o.gt = some out →
      (∀ x ∈ out, x ∈ l.entries) ∧ (∀ a, o.amount = some a → 0 ≤ a → out.length ≤ a.toNat)) := by
  have T := treach_inv r
  exact ⟨⟨_, _, snapshot_of_inv T.uNe (T.inv l hl), translated_iterator_default (T.inv l hl) ho (T.hash_ne hl)⟩,
    fun o out hgte hgt h => translated_iterator_sound (T.inv l hl) o (T.hash_ne hl) hgte hgt out h⟩

/-- **C04 for every replica of every reachable state**: the translated plan of `Append` returns predecessors that are
    exactly the hashes of the heads (each once), the writer's clock id and a clock time above that of every entry
    the log holds — its own and those merged in from other writers -/
theorem translated_system_append_dominates {U : List Entry} {L : List Log} (r : TReach U L) {l : Log} (hl : l ∈ L)
    (ho : OrderOk l.sortFn l.entries) (pcOpt : Int) :
    ∃ (next refs : List Hash) (t : Int),
      Generated.Go.appendPlan (traverseFuel l.entries (sortedHeads l)) l.entries (before l.sortFn) l.heads
        l.clock.id l.clock.time pcOpt = some (next, refs, l.clock.id, t) ∧
      next.Nodup ∧ (∀ n, n ∈ next ↔ n ∈ hashes l.heads) ∧ (∀ x ∈ l.entries, x.clock.time < t) := by
  have T := treach_inv r
  exact translated_append_plan (T.inv l hl) ho (T.hash_ne hl) pcOpt

/-- **C16 for any two replicas of any reachable state**: the translated `Join` with a bound `n ≥ 0` leaves exactly the
    last `min n total` of the values that the translated `values` lists for the result of the translated unbounded
    `Join`, with the unreferenced ones among them as heads.  (The call `l.values()` inside the bounded `Join` is a
    parameter of the translation and stands for the model's `values` here; `values_eq` is what ties that to the
    translated one.) -/
theorem translated_system_join_bounded {U : List Entry} {L : List Log} (r : TReach U L) {A B : Log}
    (hA : A ∈ L) (hB : B ∈ L) (ho : OrderOk A.sortFn (joinU A B).entries) (n : Int) (hn : 0 ≤ n) :
    ∃ (cands Eu : List Entry) (Nu : List Hash) (Hu : List Entry) (tu : Int) (vs E' : List Entry) (N' : List Hash)
      (H' : List Entry) (t : Int),
      Generated.Go.logDifference (diffFuel B.entries B.heads) B.entries B.heads A.entries A.id = some cands ∧
      Generated.Go.joinTail (fun E H => values { A with entries := E, heads := H })
        A.entries A.nextIdx A.heads A.clock.id A.clock.time cands B.heads (-1) = some (A.clock.id, tu, Eu, Nu, Hu) ∧
      Generated.Go.values (traverseFuel Eu Hu) Eu (before A.sortFn) Hu = some vs ∧
      Generated.Go.joinTail (fun E H => values { A with entries := E, heads := H })
        A.entries A.nextIdx A.heads A.clock.id A.clock.time cands B.heads n = some (A.clock.id, t, E', N', H') ∧
      E' = vs.drop (vs.length - n.toNat) ∧
      (∀ x, x ∈ H' ↔ x ∈ E' ∧ ¬ namedBy E' x.hash) := by
  have T := treach_inv r
  have hid := T.sameId A hA B hB
  obtain ⟨cands, E', N', H', t, hd, hb, hE', hH'⟩ := translated_join_bounded T.uNodup (T.inv A hA) (T.inv B hB) hid ho n hn
  -- the unbounded result is the model's `joinU`, which satisfies the invariant: its `values` are the translated ones
  have IJ := inv_join T.uNodup (T.inv A hA) (T.inv B hB) hid
  have hne : ∀ e ∈ (joinU A B).entries, e.hash ≠ [] := fun e he => T.uNe e (IJ.inU e he)
  have hv := values_eq (joinU A B) hne (fun e he => hne e (IJ.headsIn e he))
  cases (logDifference_eq B.entries B.heads A).symm.trans hd
  exact ⟨_, _, _, _, _, _, E', N', H', t, hd, joinTail_joinN A B (-1), hv, hb, hE', hH'⟩

/-- **C09 over histories**: a replica of a reachable state rebuilt through the translated `fromJSON` glue and the
    translated `NewLog` core from any complete fetch of its entries (each once, any arrival order) has the same
    entries, the same heads and — under an ordering that is a strict total order on them — the translated
    `ToSnapshot` lists the same values for both -/
theorem translated_system_load {U : List Entry} {L : List Log} (r : TReach U L) {l : Log} (hl : l ∈ L)
    (fetched : List Entry) (hnd : (hashes fetched).Nodup) (hin : ∀ e ∈ fetched, e ∈ U)
    (hset : ∀ h, h ∈ hashes fetched ↔ h ∈ hashes l.entries) (cid : Bytes) (ho : OrderOk l.sortFn l.entries) :
    ∃ (ents : List Entry) (t : Int) (H : List Entry) (N : List Hash) (hs₁ hs₂ vs : List _),
      Generated.Go.fromJSONTail none fetched = some ents ∧
      Generated.Go.newLogCore none [] ents = (t, H, N) ∧
      (∀ x, x ∈ ents ↔ x ∈ l.entries) ∧ (∀ x, x ∈ H ↔ x ∈ l.heads) ∧
      Generated.Go.toSnapshot (traverseFuel l.entries l.heads) l.entries (before l.sortFn) l.heads = some (hs₁, vs) ∧
      Generated.Go.toSnapshot (traverseFuel ents H) ents (before l.sortFn) H = some (hs₂, vs) := by
  have T := treach_inv r
  obtain ⟨ents, t, H, N, hf, hn, hE, hH, hinv⟩ := translated_rebuild_json T.uNodup (T.inv l hl) fetched hnd hin hset cid
  have hH' : ∀ h, h ∈ hashes l.entries ↔ h ∈ hashes ents := fun h => by simp only [mem_hashes, hE]
  obtain ⟨_, _, hv⟩ := inv_convergence T.uNodup (T.inv l hl) hinv hH'
  exact ⟨ents, t, H, N, _, _, _, hf, hn, hE, hH, snapshot_of_inv T.uNe (T.inv l hl),
    hv rfl ho ▸ snapshot_of_inv T.uNe hinv⟩

/-- progress: in a reachable state the translated `Append` of any replica (ordering a strict total order on its
    entries, any pointer count, a fresh non-empty CID) returns, and its result is reachable -/
theorem treach_can_append {U : List Entry} {L : List Log} (r : TReach U L) {i : Nat} {l : Log} (hl : L[i]? = some l)
    (ho : OrderOk l.sortFn l.entries) (pc : Int) (h : Hash) (tag : Nat) (hf : h ∉ hashes U) (hne : h ≠ []) :
    ∃ (next refs : List Hash) (t : Int) (E' : List Entry) (N' : List Hash) (H' : List Entry),
      TReach (U ++ [createdEntry l h tag next refs t])
        (L.set i { l with entries := E', nextIdx := N', heads := H', clock := ⟨l.clock.id, t⟩ }) := by
  have T := treach_inv r
  have hlm := List.mem_of_getElem? hl
  obtain ⟨next, refs, t, E', N', H', hp, ht, _, _, _⟩ := translated_append (T.inv l hlm) ho (T.hash_ne hlm) pc h tag hf
  exact ⟨next, refs, t, E', N', H', TReach.append r i l hl ho pc h tag hf hne next refs t E' N' H' hp ht⟩

/-- progress: in a reachable state the translated `Join` of any two replicas returns, and its result is reachable -/
theorem treach_can_join {U : List Entry} {L : List Log} (r : TReach U L) {i j : Nat} {A B : Log}
    (hA : L[i]? = some A) (hB : L[j]? = some B) :
    ∃ (E' : List Entry) (N' : List Hash) (H' : List Entry) (t : Int),
      TReach U (L.set i { A with entries := E', nextIdx := N', heads := H', clock := ⟨A.clock.id, t⟩ }) := by
  have T := treach_inv r
  have hAm := List.mem_of_getElem? hA
  have hBm := List.mem_of_getElem? hB
  obtain ⟨c, E', N', H', t, hd, ht, _⟩ :=
    translated_join_preserves_inv T.uNodup (T.inv A hAm) (T.inv B hBm) (T.sameId A hAm B hBm)
  exact ⟨E', N', H', t, TReach.join r i j A B hA hB c E' N' H' t hd ht⟩

/-- non-vacuity: the initial states are reachable (and by `treach_can_append` / `treach_can_join` every operation on a
    reachable state has a successor) -/
example : TReach [] [emptyLog [1] [2] .lww, emptyLog [1] [3] .lww] :=
  TReach.init _ [1] (fun l hl => by
    rcases List.mem_cons.mp hl with h | h
    · exact ⟨[2], .lww, h⟩
    · rw [List.mem_singleton] at h; exact ⟨[3], .lww, h⟩)

end Model.Capstone
