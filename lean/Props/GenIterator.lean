import Generated.GenIterator
import Props.GenCommon
import Props.GenTraverse
import Proofs.Iterator
/-!
# Props.GenIterator — `IPFSLog.Iterator` and `sortedHeads` (log.go), translated, are the model's `iterator` and `sortedHeads`

`Iterator` is translated as an *emitter*: the output channel is the list of what was sent (`close` adds nothing),
the only result is the error (`none`), the options are the five optional bounds, a loop that may leave the
function with an error is a fold in the `Option` monad, the continuations of the `if`s with exits are join points
(`Generated.Go.iterator_join1…4`), `l.traverse` is the translated traversal with the caller's fuel.
`iterator_eq_fuel` holds for every fuel; with the fuel the model gives the traversal (`iterFuel`) the translated
function is exactly `Model.iterator` — the function the C15 theorems are about.  Hypotheses: no entry of the log
and no lower bound has the empty hash (`""` stands for "no lower bound" in the code).
-/
namespace Model.SlicesGen
open Model Model.Go

theorem sortedHeads_eq (l : Log) : Generated.Go.sortedHeads l.entries (before l.sortFn) l.heads = sortedHeads l := rfl

/-- the LTE loop: every bound is looked up, an unknown one is the error -/
theorem lte_fold (E : List Entry) : ∀ (cs : List Hash) (init : List Entry),
    cs.foldlM (fun start c => if (!(get? E c).isSome) = true then none else some (start ++ [(get? E c).getD default])) init =
      (lookupAll E cs).map (fun r => init ++ r) := by
  intro cs
  induction cs with
  | nil => intro init; simp [lookupAll]
  | cons c cs ih =>
    intro init
    simp only [List.foldlM_cons, lookupAll]
    cases get? E c with
    | none => simp
    | some e =>
      simp only [Option.isSome_some, Bool.not_true, Bool.false_eq_true, if_false, Option.getD_some, Option.bind_eq_bind,
        Option.bind_some]
      rw [ih]
      cases lookupAll E cs <;> simp

theorem lte_fold_nil (E : List Entry) (cs : List Hash) :
    cs.foldlM (fun start c => if (!(get? E c).isSome) = true then none else some (start ++ [(get? E c).getD default])) [] =
      lookupAll E cs := by
  rw [lte_fold]; cases lookupAll E cs <;> simp

/-- the LT loop, for ANY step function that meets the pointwise specification (whatever shape the code gives its tests) -/
theorem lt_fold_any (E : List Entry) (f : List Entry → Hash → Option (List Entry))
    (hf : ∀ s c, f s c = if (!(get? E c).isSome) = true then none else lookupAll E ((get? E c).getD default).next) :
    ∀ (cs : List Hash) (init : List Entry), cs.foldlM f init = ltStart E cs init := by
  intro cs
  induction cs with
  | nil => intro init; rfl
  | cons c cs ih =>
    intro init
    rw [List.foldlM_cons, hf, ltStart]
    cases get? E c with
    | none => rfl
    | some e =>
      simp only [Option.isSome_some, Bool.not_true, Bool.false_eq_true, if_false, Option.getD_some]
      cases lookupAll E e.next with
      | none => rfl
      | some s => exact ih s

theorem join3_eq (fuel : Nat) (E : List Entry) (lt : Entry → Entry → Bool) (H : List Entry) (o : IterOpts)
    (output start em entries : List Entry) (eh : Hash) (count : Int) (xlte xlt : Option (List Hash)) :
    Generated.Go.iterator_join3 fuel E lt H o.amount xlte xlt o.gte o.gt output (iterAmount o) start eh count em entries =
      some (output ++ iterKeepLast o entries) := by
  unfold Generated.Go.iterator_join3 Generated.Go.iterator_join4 iterKeepLast
  simp only [Bool.and_eq_true, Bool.or_eq_true, decide_eq_true_eq, and_assoc]
  by_cases hc : (o.gt.isSome = true ∨ o.gte.isSome = true) ∧ iterAmount o > -1 ∧ iterAmount o < (entries.length : Int)
  · rw [if_pos hc, if_pos hc, slice?_last entries _ (by omega) (by omega)]
  · rw [if_neg hc, if_neg hc]

/-- the model's iteration from a given start set, with explicit fuel -/
def iterFromF (fuel : Nat) (E : List Entry) (lt : Entry → Entry → Bool) (o : IterOpts) (start : List Entry) : List Entry :=
  iterTrim o (travLoop E lt (iterCount o) (iterEnd o) fuel (goSort lt (omFromList start)) [] [] 0)

theorem join2_eq (fuel : Nat) (E : List Entry) (lt : Entry → Entry → Bool) (H : List Entry) (o : IterOpts)
    (output start : List Entry)
    (hE : ∀ e ∈ E, e.hash ≠ []) (hS : ∀ e ∈ start, e.hash ≠ [])
    (hgte : ∀ h, o.gte = some h → h ≠ []) (hgt : ∀ h, o.gt = some h → h ≠ []) (xlte xlt : Option (List Hash)) :
    Generated.Go.iterator_join2 fuel E lt H o.amount xlte xlt o.gte o.gt output (iterAmount o) start =
      some (output ++ iterFromF fuel E lt o start) := by
  unfold Generated.Go.iterator_join2 iterFromF iterTrim
  -- the end hash as the code computes it ("" = none) and as the model does
  have hend : (if o.gte.isSome = true then o.gte.getD [] else if o.gt.isSome = true then o.gt.getD [] else ([] : Hash)) =
      (iterEnd o).getD [] := by
    unfold iterEnd
    cases o.gte <;> cases o.gt <;> rfl
  have hnone : ((iterEnd o).getD [] == ([] : Hash)) = (iterEnd o).isNone := by
    unfold iterEnd
    cases h1 : o.gte with
    | some h => exact beq_false_of_ne (hgte h h1)
    | none =>
      cases h2 : o.gt with
      | some h => exact beq_false_of_ne (hgt h h2)
      | none => rfl
  have hcount : (if ((iterEnd o).getD [] == ([] : Hash) && o.amount.isSome) = true then iterAmount o else -1) = iterCount o := by
    unfold iterCount
    rw [hnone]
    cases iterEnd o <;> cases o.amount <;> rfl
  simp only [hend, hcount]
  rw [traverse_eq_fuel fuel E lt (omFromList start) (iterCount o) (iterEnd o)
    (fun _ => ⟨hE, fun e he => hS e (mem_omFromList he)⟩)]
  generalize travLoop E lt (iterCount o) (iterEnd o) fuel (goSort lt (omFromList start)) [] [] 0 = ents
  unfold iterDropGt
  simp only [Bool.and_eq_true, decide_eq_true_eq, Int.natCast_pos]
  by_cases hg : o.gt.isSome = true ∧ 0 < ents.length
  · rw [if_pos hg, if_pos hg, slice?_dropLast ents hg.2]
    exact join3_eq ..
  · rw [if_neg hg, if_neg hg, join3_eq]

/-- the start set below exclusive bounds: the heads when there are none, entries of the log otherwise -/
theorem ltStart_ne {E : List Entry} {cs : List Hash} {init s : List Entry} (h : ltStart E cs init = some s)
    (hi : ∀ e ∈ init, e.hash ≠ []) (hE : ∀ e ∈ E, e.hash ≠ []) : ∀ e ∈ s, e.hash ≠ [] := by
  cases cs with
  | nil => cases h; exact hi
  | cons c cs =>
    have h' : ltStart E (c :: cs) [] = some s := h
    exact fun e he => hE e (Model.ltStart_mem (fun _ hx => by cases hx) h' e he)

/-- the model's start set as an `Option` (`none` = an unknown bound) -/
def iterStartO (l : Log) (o : IterOpts) : Option (List Entry) :=
  match iterStart l o with
  | .ok s => some s
  | _ => none

theorem join1_eq (fuel : Nat) (l : Log) (o : IterOpts) (output : List Entry)
    (hE : ∀ e ∈ l.entries, e.hash ≠ []) (hH : ∀ e ∈ l.heads, e.hash ≠ [])
    (hgte : ∀ h, o.gte = some h → h ≠ []) (hgt : ∀ h, o.gt = some h → h ≠ []) :
    Generated.Go.iterator_join1 fuel l.entries (before l.sortFn) l.heads o.amount o.lte o.lt o.gte o.gt output (iterAmount o) =
      (iterStartO l o).map (fun start => output ++ iterFromF fuel l.entries (before l.sortFn) o start) := by
  unfold Generated.Go.iterator_join1 iterStartO iterStart
  have hSH : ∀ e ∈ sortedHeads l, e.hash ≠ [] := fun e he => hH e (mem_goSort.mp (mem_omFromList he))
  simp only [sortedHeads_eq]
  cases o.lte with
  | some cs =>
    simp only [Option.isSome_some, if_true, Option.getD_some, lte_fold_nil]
    cases hl : lookupAll l.entries cs with
    | none => rfl
    | some s =>
      exact join2_eq fuel _ _ _ o output s hE (fun e he => hE e (Model.lookupAll_mem hl e he)) hgte hgt _ _
  | none =>
    simp only [Option.isSome_none, Bool.false_eq_true, if_false]
    cases o.lt with
    | some cs =>
      simp only [Option.isSome_some, if_true, Option.getD_some, lte_fold_nil]
      rw [lt_fold_any l.entries]
      rotate_left
      · intro s c
        split
        · rfl
        · cases lookupAll l.entries ((get? l.entries c).getD default).next <;> rfl
      cases hs : ltStart l.entries cs (sortedHeads l) with
      | none => rfl
      | some s =>
        exact join2_eq fuel _ _ _ o output s hE (ltStart_ne hs hSH hE) hgte hgt _ _
    | none =>
      simp only [Option.isSome_none, Bool.false_eq_true, if_false]
      exact join2_eq fuel _ _ _ o output (sortedHeads l) hE hSH hgte hgt _ _

theorem iterator_eq_fuel (fuel : Nat) (l : Log) (o : IterOpts)
    (hE : ∀ e ∈ l.entries, e.hash ≠ []) (hH : ∀ e ∈ l.heads, e.hash ≠ [])
    (hgte : ∀ h, o.gte = some h → h ≠ []) (hgt : ∀ h, o.gt = some h → h ≠ []) :
    Generated.Go.iterator fuel l.entries (before l.sortFn) l.heads o.amount o.lte o.lt o.gte o.gt =
      if o.amount = some 0 then some []
      else (iterStartO l o).map (fun start => iterFromF fuel l.entries (before l.sortFn) o start) := by
  unfold Generated.Go.iterator
  have hj := join1_eq fuel l o [] hE hH hgte hgt
  simp only [List.nil_append, iterAmount] at hj
  cases ha : o.amount with
  | none =>
    rw [ha] at hj
    exact hj
  | some a =>
    rw [ha] at hj
    by_cases h0 : a = 0
    · subst h0; rfl
    · simp only [Option.isSome_some, if_true, Option.getD_some, beq_iff_eq, h0, if_false, Option.some.injEq]
      exact hj

def iterFuel (l : Log) (o : IterOpts) : Nat :=
  match iterStart l o with
  | .ok s => traverseFuel l.entries (omFromList s)
  | _ => 0

theorem iterator_eq (l : Log) (o : IterOpts)
    (hE : ∀ e ∈ l.entries, e.hash ≠ []) (hH : ∀ e ∈ l.heads, e.hash ≠ [])
    (hgte : ∀ h, o.gte = some h → h ≠ []) (hgt : ∀ h, o.gt = some h → h ≠ []) :
    Generated.Go.iterator (iterFuel l o) l.entries (before l.sortFn) l.heads o.amount o.lte o.lt o.gte o.gt =
      match iterator l o with
      | .ok out _ => some out
      | _ => none := by
  rw [iterator_eq_fuel _ l o hE hH hgte hgt]
  unfold iterator iterStartO iterFuel iterFromF
  by_cases h0 : o.amount = some 0
  · simp [h0]
  · simp only [h0, if_false]
    cases iterStart l o <;> rfl

end Model.SlicesGen
