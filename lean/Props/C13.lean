import Proofs.ConcLog
/-!
# C13 — a log shared between goroutines behaves atomically

World: any number of logs, each behind a Go `sync.RWMutex` (`Model.Conc.RW`), any number of threads
running straight-line programs; an execution is ANY list of thread ids (`run`; a thread that cannot
move is skipped), so every statement below is about every interleaving.

`Init w0` = all locks free and every program well bracketed (`wb`): accesses to a log only under
its lock (writes under the write lock), no lock acquired while one is held, everything released at
the end.  That the code has this shape is `Props/C13Facts.lean` (facts regenerated from the Go AST)
and `api_programs_wb` below for the transcribed programs.

What is NOT modelled: the Go memory model itself, races inside dependencies, the internal lock of
`entry.OrderedMap`; the data steps inside a bracket are the functions of the sequential model.
-/
namespace Model.C13
open Model Model.Conc

/-- ANY programs: the holder of the write lock excludes every reader (at most one writer holds the
    lock by construction: `writer : Option Tid`). -/
theorem rw_exclusion (w0 : World) (hfree : ∀ l, w0.locks l = {}) (s : List Tid) (l : Lid) :
    ((run w0 s).locks l).writer ≠ none → ((run w0 s).locks l).readers = [] :=
  (run_inv (P := Excl) (fun _ _ _ hE h => step_excl hE h) s w0 (init_excl hfree)) l

/-- the same, seen from a reader -/
theorem rw_exclusion_reader (w0 : World) (hfree : ∀ l, w0.locks l = {}) (s : List Tid) (l : Lid) (t : Tid) :
    t ∈ ((run w0 s).locks l).readers → ((run w0 s).locks l).writer = none :=
  fun hm => Decidable.byContradiction fun hw => by
    rw [rw_exclusion w0 hfree s l hw] at hm
    cases hm

/-- the ghost `held` is what the lock table says -/
theorem held_iff_lock (w0 : World) (hI : Init w0) (s : List Tid) (t : Tid) (l : Lid) :
    (((run w0 s).thr t).held = some (l, true) ↔ ((run w0 s).locks l).writer = some t) ∧
    (((run w0 s).thr t).held = some (l, false) ↔ t ∈ ((run w0 s).locks l).readers) :=
  let hG := run_good hI s
  ⟨⟨hG.coh.heldW l t, hG.coh.wHeld l t⟩, ⟨hG.coh.heldR l t, hG.coh.rHeld l t⟩⟩

/-- DISCIPLINE ⇒ RACE FREE: in no reachable state are two threads both about to access the same
    log when one of the two accesses is a write -/
theorem discipline_race_free (w0 : World) (hI : Init w0) (s : List Tid) {t u : Tid} (htu : t ≠ u)
    {l : Lid} {b : Bool} (ht : nextAccess (run w0 s) t = some (l, true))
    (hu : nextAccess (run w0 s) u = some (l, b)) : False :=
  let hG := run_good hI s
  no_conflict hG.coh hG.excl htu ht hu

/-- every access happens under the lock: a thread about to access a log holds its lock, and the
    write lock if the access is a write -/
theorem access_under_lock (w0 : World) (hI : Init w0) (s : List Tid) {t : Tid} {l : Lid} {b : Bool}
    (ha : nextAccess (run w0 s) t = some (l, b)) :
    (b = true → ((run w0 s).locks l).writer = some t) ∧
    (((run w0 s).locks l).writer = some t ∨ t ∈ ((run w0 s).locks l).readers) :=
  access_locked (run_good hI s).coh ha

/-- A BRACKET IS ATOMIC: while a thread holds the lock of a log (for reading or writing), no step of
    any other thread changes that log — this is what licenses modelling a critical section by one
    step of the sequential model -/
theorem bracket_atomic (w0 : World) (hI : Init w0) (s : List Tid) {t u : Tid} {l : Lid} {b : Bool}
    (hh : ((run w0 s).thr t).held = some (l, b)) (htu : u ≠ t) {w' : World}
    (h : step (run w0 s) u = some w') : w'.logs l = (run w0 s).logs l :=
  let hG := run_good hI s
  holder_owns hG.coh hG.excl hh htu h

/-- NO LOCK WHILE HOLDING ⇒ DEADLOCK FREE: in every reachable state in which some thread has not
    finished, some thread can move -/
theorem deadlock_free (w0 : World) (hI : Init w0) (s : List Tid)
    (hu : ∃ t, finished (run w0 s) t = false) : ∃ t w', step (run w0 s) t = some w' := by
  obtain ⟨t, ht⟩ := hu
  exact progress (run_good hI s).coh ⟨t, by simpa [finished] using ht⟩

/-- and executions are finite: in an execution in which every scheduled thread moves, a thread moves
    at most twice per instruction of its program (a `Lock()` may first announce itself) -/
theorem bounded_moves (w0 w' : World) (s : List Tid) (h : exec w0 s = some w') (t : Tid) :
    s.count t ≤ 2 * (w0.thr t).rest.length := by
  have := exec_count t s w0 w' h
  have := budget_le w0 t
  omega

/-- the programs transcribed from the API -/
inductive ApiProg : List Instr → Prop where
  | append (l : Lid) (pc : Int) (h : Hash) (tag : Nat) : ApiProg (appendProg l pc h tag)
  | join (dst src : Lid) (srcId : Bytes) (size : Int) : ApiProg (joinProg dst src srcId size)
  | joinNoop : ApiProg joinNoopProg
  | joinRefused (dst src : Lid) : ApiProg (joinRefusedProg dst src)
  | setIdentity (l : Lid) (cid : Bytes) : ApiProg (setIdentityProg l cid)
  | reader (l : Lid) : ApiProg (readerProg l)
  | heads (l : Lid) : ApiProg (headsProg l)
  | iterator (l : Lid) : ApiProg (iteratorProg l)
  | toMultihash (l : Lid) : ApiProg (toMultihashProg l)

/-- every API program keeps the discipline -/
theorem api_programs_wb {p : List Instr} (h : ApiProg p) : wb none p = true := by
  cases h <;>
    simp [appendProg, joinProg, joinNoopProg, joinRefusedProg, setIdentityProg, readerProg, headsProg, iteratorProg,
      toMultihashProg, wb, heldAfter]

/-- a world of API calls on free locks is an initial world -/
theorem api_world_init (logs : Lid → Log) (progs : Tid → List Instr) (h : ∀ t, ApiProg (progs t) ∨ progs t = []) :
    Init (mkWorld logs progs) where
  locks := fun _ => rfl
  held := fun _ => rfl
  wbP := fun t => by
    rcases h t with h | h
    · exact api_programs_wb h
    · simp [mkWorld, h, wb]
  ev := fun _ => rfl

/-- SERIAL: the state of every log is the fold of the sequential model's steps that were executed on
    it, in the order of the lock sessions (`scan`: the event list of the log is a sequence of
    sessions `acq t, wr t …, rel t`, the open one belonging to the current writer) -/
theorem serial (w0 : World) (hI : Init w0) (s : List Tid) (l : Lid) :
    (run w0 s).logs l = replay (w0.logs l) ((run w0 s).ev l) ∧
    scan ((run w0 s).ev l) = some ((run w0 s).locks l).writer :=
  let hG := run_good hI s
  ⟨hG.rep l, hG.sess l⟩

/-- hence every invariant `P` of the sequential steps holds in every reachable state -/
theorem serial_inv (P : Log → Prop) (w0 : World) (h0 : ∀ l, P (w0.logs l)) (hW : WritesOK P w0)
    (s : List Tid) (l : Lid) : P ((run w0 s).logs l) :=
  (run_inv (P := fun w => WritesOK P w ∧ ∀ l, P (w.logs l))
    (fun _ _ _ hp h => ⟨step_writesOK hp.1 h, step_logs_inv hp.1 hp.2 h⟩) s w0 ⟨hW, h0⟩).2 l

/-- and in every state the log has ever had -/
theorem serial_inv_past (P : Log → Prop) (w0 : World) (hI : Init w0) (h0 : ∀ l, P (w0.logs l))
    (hW : WritesOK P w0) (s : List Tid) (l : Lid) (k : Nat) :
    P (replay (w0.logs l) (((run w0 s).ev l).drop k)) := by
  have hG := run_good hI s
  apply replay_inv (h0 l)
  intro t op r hm log hp
  exact hW t l op (hG.evs l t op r (List.mem_of_mem_drop hm)) r log hp

/-- every read observes such a state: what a read accessor records is the state of the log at that
    moment, and that state satisfies `P` -/
theorem reads_see_inv (P : Log → Prop) (w0 : World) (h0 : ∀ l, P (w0.logs l)) (hW : WritesOK P w0)
    (s : List Tid) (t : Tid) (l : Lid) (rest : List Instr) (w' : World)
    (hr : ((run w0 s).thr t).rest = .observe l :: rest) (h : step (run w0 s) t = some w') :
    (w'.thr t).regs.obs = ((run w0 s).thr t).regs.obs ++ [seenOf ((run w0 s).logs l)] ∧
    P ((run w0 s).logs l) := by
  refine ⟨?_, serial_inv P w0 h0 hW s l⟩
  rcases step_self h with ⟨_, _, hr', _, _⟩ | ⟨i, _, hr', _, h3⟩
  · rw [hr] at hr'; cases hr'
  · rw [hr] at hr'; cases hr'; rw [h3]; rfl

/-- APPEND CHAIN.  `t1`'s append session on log `l` came before `t2`'s (lock order), the operations in
    between and afterwards never remove entries (appends, unbounded merges, identity changes), the
    hashes are fresh, and the state `t2` saw has the structural guarantee `Covered` (every entry in
    the past of a head — C02).  Then `t2`'s entry names exactly the heads it saw, it became the only
    head, and `t1`'s entry is in its causal past in the log as it is now. -/
theorem append_chain (w0 : World) (hI : Init w0) (s : List Tid) (l : Lid)
    (t1 t2 : Tid) (pc1 pc2 : Int) (h1 h2 : Hash) (tag1 tag2 : Nat) (r1 r2 : Regs) (newer mid older : List Ev)
    (hev : (run w0 s).ev l =
      newer ++ .wr t2 (.append pc2 h2 tag2) r2 :: (mid ++ .wr t1 (.append pc1 h1 tag1) r1 :: older))
    (hnewer : ∀ t op r, Ev.wr t op r ∈ newer → op.unbounded)
    (hmid : ∀ t op r, Ev.wr t op r ∈ mid → op.unbounded)
    (hcov : Covered (replay (w0.logs l) (mid ++ .wr t1 (.append pc1 h1 tag1) r1 :: older)))
    (hf1 : h1 ∉ hashes (replay (w0.logs l) older).entries)
    (hf2 : h2 ∉ hashes (replay (w0.logs l) (mid ++ .wr t1 (.append pc1 h1 tag1) r1 :: older)).entries) :
    let seen := replay (w0.logs l) (mid ++ .wr t1 (.append pc1 h1 tag1) r1 :: older)
    let e2 := (append seen pc2 h2 tag2).1
    (∀ x, x ∈ e2.next ↔ x ∈ hashes seen.heads) ∧
    (replay (w0.logs l) (.wr t2 (.append pc2 h2 tag2) r2 :: (mid ++ .wr t1 (.append pc1 h1 tag1) r1 :: older))).heads = [e2] ∧
    Anc ((run w0 s).logs l).entries h1 h2 := by
  intro seen e2
  have hG := run_good hI s
  refine ⟨?_, ?_, ?_⟩
  · exact fun x => mem_appendPlan_next seen pc2
  · exact append_snd_heads seen pc2 h2 tag2
  · -- t1's entry is in the state t2 saw, hence below t2's entry in the state after t2's append,
    -- and that state is contained in the present one
    -- (some entry with hash `h1` is there whether or not `h1` was fresh: `hf1` is not needed)
    obtain ⟨e1, he1, he1h⟩ := List.mem_map.mp (append_hash_mem (replay (w0.logs l) older) pc1 h1 tag1)
    have hanc := (append_covered pc2 tag2 hcov hf2).2 e1 (replay_grows _ _ mid hmid e1 he1)
    rw [he1h] at hanc
    refine hanc.mono fun x hx => ?_
    rw [hG.rep l, hev]
    exact replay_grows _ _ newer hnewer x hx

/-- two appends directly after one another: the second names exactly the first -/
theorem append_after_append (init : Log) (older : List Ev) (t1 : Tid) (pc1 pc2 : Int) (h1 h2 : Hash)
    (tag1 tag2 : Nat) (r1 : Regs) :
    (append (replay init (.wr t1 (.append pc1 h1 tag1) r1 :: older)) pc2 h2 tag2).1.next = [h1] := by
  -- the hashes of the sorted heads of the state it sees, whose one head is the first entry
  rw [append_next, appendPlan_next_eq]
  rfl

/-- EXACTLY ONCE: an entry that was appended is in the log exactly once, as long as nothing removes
    entries afterwards -/
theorem append_once (w0 : World) (hI : Init w0) (s : List Tid) (l : Lid)
    (hn : NodupH (w0.logs l).entries)
    (t : Tid) (pc : Int) (h : Hash) (tag : Nat) (r : Regs) (newer older : List Ev)
    (hev : (run w0 s).ev l = newer ++ .wr t (.append pc h tag) r :: older)
    (hnewer : ∀ t op r, Ev.wr t op r ∈ newer → op.unbounded) :
    (hashes ((run w0 s).logs l).entries).count h = 1 := by
  have hG := run_good hI s
  obtain ⟨y, hy, hyh⟩ := List.mem_map.mp (append_hash_mem (replay (w0.logs l) older) pc h tag)
  rw [List.Nodup.count (hG.rep l ▸ replay_nodupH hn _), if_pos]
  rw [hG.rep l, hev]
  exact List.mem_map.mpr ⟨y, replay_grows _ _ newer hnewer y hy, hyh⟩

def log0 : Log :=
  { id := [7], entries := [], heads := [], nextIdx := [], clock := { id := [1], time := 0 }, sortFn := .lww }

def w2 : World := mkWorld (fun _ => log0) (progsOfList [appendProg 0 1 [1], appendProg 0 1 [2], readerProg 0])

theorem w2_init : Init w2 :=
  api_world_init _ _ (fun t => by
    match t with
    | 0 => exact Or.inl (.append 0 1 [1] 0)
    | 1 => exact Or.inl (.append 0 1 [2] 0)
    | 2 => exact Or.inl (.reader 0)
    | _ + 3 => exact Or.inr rfl)

/-- thread 0 appends, the reader reads, thread 1 appends -/
def sched2 : List Tid := [0, 0, 0, 0, 0, 0, 0, 2, 2, 2, 2, 1, 1, 1, 1, 1, 1, 1]

example : (run w2 sched2).ev 0 =
    [.rel 1, .wr 1 (.append 1 [2] 0) {}, .acq 1, .rel 0, .wr 0 (.append 1 [1] 0) {}, .acq 0] := by decide +kernel

theorem covered_log0 : Covered log0 := ⟨fun _ h => (nomatch h), fun _ h => (nomatch h)⟩

/-- `append_chain` applies to this run: the first appended entry is in the causal past of the second -/
example : Anc ((run w2 sched2).logs 0).entries [1] [2] :=
  (append_chain w2 w2_init sched2 0 0 1 1 1 [1] [2] 0 0 {} {} [.rel 1] [.acq 1, .rel 0] [.acq 0]
    (by decide) (fun _ _ _ h => by simp at h) (fun _ _ _ h => by simp at h)
    (by have := (append_covered (l := log0) 1 (h := [1]) 0 covered_log0 (by decide)).1
        simpa [replay, applyW, w2, mkWorld] using this)
    (by decide) (by decide)).2.2

example : (hashes ((run w2 sched2).logs 0).entries).count [1] = 1 :=
  append_once w2 w2_init sched2 0 (by simp [w2, mkWorld, log0, NodupH, hashes]) 0 1 [1] 0 {}
    [.rel 1, .wr 1 (.append 1 [2] 0) {}, .acq 1, .rel 0] [.acq 0] (by decide)
    (fun _ op _ h => by simp at h; rcases h with h; cases h.2.1; trivial)

example : nextAccess (run w2 [0, 0, 0, 0, 0]) 0 = some (0, true) := by decide +kernel

example : (((run w2 sched2).thr 2).regs.obs.map (fun o => hashes o.entries)) = [[[1]]] := by decide +kernel

example : ∀ t, t < 3 → finished (run w2 sched2) t = true := by decide +kernel

/-! The code before the repair: `toMultihash` read `log.heads` without the lock. -/

def wOldMultihash : World := mkWorld (fun _ => log0) (progsOfList [toMultihashProgOld 0, appendProg 0 1 [1]])

example : wb none (toMultihashProgOld 0) = false := by decide +kernel

/-- a state is reachable in which the unlocked read and `Append`'s write are both enabled -/
example : ∃ s, nextAccess (run wOldMultihash s) 1 = some (0, true) ∧
    nextAccess (run wOldMultihash s) 0 = some (0, false) :=
  ⟨[1, 1, 1, 1, 1], by decide⟩

end Model.C13
