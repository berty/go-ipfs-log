import Props.GenIterator
import Props.C15
/-!
# Props.GenCapstoneIter — C15 statements about the TRANSLATED `Iterator`

`iterator_eq` identifies the translated `IPFSLog.Iterator` (with the model's fuel) with `Model.iterator`; composed
with the theorems of `Props/C15.lean` this gives statements that mention only the generated definition:
what the translated iterator sends, when it reports no error, are entries of the log, at most `amount` of them
(`translated_iterator_sound`), and by default (no bounds) the complete log newest first (`translated_iterator_default`).
-/
namespace Model.Capstone
open Model Model.Go Model.SlicesGen Model.C15

theorem translated_iterator_sound {U : List Entry} {l : Log} (I : Inv U l) (o : IterOpts)
    (hE : ∀ e ∈ l.entries, e.hash ≠ [])
    (hgte : ∀ h, o.gte = some h → h ≠ []) (hgt : ∀ h, o.gt = some h → h ≠ [])
    (out : List Entry)
    (h : Generated.Go.iterator (iterFuel l o) l.entries (before l.sortFn) l.heads o.amount o.lte o.lt o.gte o.gt = some out) :
    (∀ x ∈ out, x ∈ l.entries) ∧ (∀ a, o.amount = some a → 0 ≤ a → out.length ≤ a.toNat) := by
  rw [iterator_eq l o hE (fun e he => hE e (I.headsIn e he)) hgte hgt] at h
  cases hi : iterator l o with
  | ok out' c =>
    rw [hi] at h
    cases h
    exact ⟨emits_entries I o _ c hi, fun a ha h0 => at_most_amount l o a ha h0 _ c hi⟩
  | errLTE => rw [hi] at h; cases h
  | errLT => rw [hi] at h; cases h

theorem translated_iterator_default {U : List Entry} {l : Log} (I : Inv U l) (ho : OrderOk l.sortFn l.entries)
    (hE : ∀ e ∈ l.entries, e.hash ≠ []) :
    Generated.Go.iterator (iterFuel l {}) l.entries (before l.sortFn) l.heads none none none none none =
      some (values l).reverse := by
  have := iterator_eq l {} hE (fun e he => hE e (I.headsIn e he)) (fun h hh => by cases hh) (fun h hh => by cases hh)
  rw [default_is_reverse_values I ho] at this
  exact this

end Model.Capstone
