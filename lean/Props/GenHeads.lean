import Generated.GenHeads
import Props.GenCommon
/-!
# Props.GenHeads — `FindHeads` (entry/utils.go), translated, is the model's `findHeads`

The code records every hash some entry names as a key of a `map[string]string`, the model concatenates the `next`
lists; both then keep the entries whose hash is not among them and sort by clock id.
-/
namespace Model.SlicesGen
open Model Model.Go Model.Codec

theorem findHeads_eq (E : List Entry) : Generated.Go.findHeads E = findHeads E := by
  unfold Generated.Go.findHeads findHeads
  have hitems : ∀ h, mapHas (E.foldl (fun items k => k.next.foldl (fun items n => mapSet items n k.hash) items) []) h =
      (E.foldl (fun acc e => acc ++ e.next) []).contains h := fun h => by
    rw [mem_foldl_foldl_insert mapHas (fun (k : Entry) items n => mapSet items n k.hash) (·.next)
      (fun k m n h => mapHas_mapSet m n k.hash h), foldl_append_flatMap]
    rfl
  -- whether the code tests `ok || e != ""` or just `ok`
  simp only [mapHas_or_mapGet]
  simp only [hitems, foldl_cond_append, List.nil_append]

end Model.SlicesGen
