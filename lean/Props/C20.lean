import Proofs.Keystore
/-!
# C20 — key material and identities are stable and self-consistent

Statements about the transcriptions in `Model.Keystore` of `Keystore.HasKey / GetKey / CreateKey`
(keystore/keystore.go, over `hashicorp/golang-lru` and one shared `datastore`) and of
`Identities.CreateIdentity` / `OrbitDBIdentityProvider.{GetID, SignIdentity, Sign}`.

Quantification: every operation sequence `ops` (create / get / has / get-or-create / createIdentity /
signEntry / restart, each on any keystore number — there are as many keystores as natural numbers, all
on ONE datastore; a number never used before is a fresh keystore, `restart` empties a cache), every
cache capacity `env.cap` (`cache_bounded` assumes `1 ≤ cap`, as `lru.New` demands, and does not use it),
every datastore key normalisation `env.norm` (the real one, `datastore.NewKey`, identifies e.g. `"a"`, `"/a"`
and `"a/"`: "the same id" below therefore means "the same datastore key"), every oracle of fresh key bytes.

Hypothesis H (`wf`): a DIRECT `CreateKey` is only applied to an id whose datastore key holds nothing;
creation through get-or-create (as `CreateIdentity` does) is unrestricted.  Re-creating an existing id
replaces the key by design and is outside "a key once created" (`recreate_breaks_coherence` shows the
hypothesis cannot be dropped).

`State.created` is the ghost log of `CreateKey`: in the model `createKey` — called directly, or inside
get-or-create / `CreateIdentity` — prepends `(id, k)` to it, and nothing else writes it (`create_logged`,
`reads_create_nothing`).
-/
namespace Model.C20
open Model.Keys

abbrev final (env : Env) (C : Crypto) (ops : List Op) : State := (run env C State.init ops).2
abbrev observed (env : Env) (C : Crypto) (ops : List Op) : List Obs := (run env C State.init ops).1

theorem final_inv {env : Env} {C : Crypto} {ops : List Op} (hw : wf env C State.init ops = true) :
    Inv env (final env C ops) :=
  (run_inv C ops (inv_init env) hw).1

theorem identity_of {env : Env} {C : Crypto} {ops : List Op} (hw : wf env C State.init ops = true) {uid : Id}
    {r : Option Identity} (ho : Obs.ident uid r ∈ observed env C ops) :
    ∃ ku ki, r = some (mkIdentity C ku ki) ∧ (final env C ops).store.get (env.norm uid) = some ku
      ∧ (final env C ops).store.get (env.norm (hexEnc (C.pubC ku))) = some ki :=
  run_ident C ops (inv_init env) hw ho

/-- invariant: whatever any keystore has cached for an id is what the datastore holds for it now -/
theorem cache_coherent (env : Env) (C : Crypto) (ops : List Op) (hw : wf env C State.init ops = true)
    (i : Nat) (id : Id) (k : Key) (hc : (id, k) ∈ (final env C ops).caches i) :
    (final env C ops).store.get (env.norm id) = some k :=
  (final_inv hw).cache i id k hc

/-- the cache model is an LRU map: never more than `cap` entries, one entry per id (no hypothesis on ops) -/
theorem cache_bounded (env : Env) (hcap : 1 ≤ env.cap) (C : Crypto) (ops : List Op) (i : Nat) :
    ((final env C ops).caches i).length ≤ env.cap ∧ (((final env C ops).caches i).map (·.1)).Nodup :=
  run_cachesOk C ops (fun _ => Cache.ok_nil _) i

/-- a direct `CreateKey` is logged -/
theorem create_logged (env : Env) (C : Crypto) (s : State) (i : Nat) (id : Id) (k : Key) :
    (id, k) ∈ (step env C s (.create i id k)).2.created := List.mem_cons_self

/-- reading operations and restarts create nothing and leave the datastore alone -/
theorem reads_create_nothing (env : Env) (C : Crypto) (s : State) (hs : Inv env s) (i : Nat) (id : Id) (d : Bytes) :
    SameData s (step env C s (.get i id)).2 ∧ SameData s (step env C s (.has i id)).2
      ∧ SameData s (step env C s (.signEntry i id d)).2 ∧ SameData s (step env C s (.restart i)).2 := by
  -- `hs` is not needed
  have g := sameData_getKey env s i id
  refine ⟨g, ?_, ?_, SameData.refl s⟩
  · simp only [step, hasKey_eq]
    split
    · exact SameData.refl s
    · exact g
  · simp only [step, signEntry_eq]; exact g

/-- a key once created is reported present and returned identically by EVERY keystore `j` over the
datastore (`j` used before — whatever was evicted from its cache since — or restarted, or fresh), at the
end of every well-formed continuation -/
theorem created_present (env : Env) (C : Crypto) (ops : List Op) (hw : wf env C State.init ops = true)
    (id : Id) (k : Key) (hc : (id, k) ∈ (final env C ops).created) (j : Nat) :
    (hasKey env (final env C ops) j id).1 = HasRes.yes ∧ (getKey env (final env C ops) j id).1 = some k :=
  has_get_spec (final_inv hw) j ((final_inv hw).created id k hc)

theorem stored_present {env : Env} {C : Crypto} {pre post : List Op}
    (hw : wf env C State.init (pre ++ post) = true) {id : Id} {k : Key}
    (hs : (final env C pre).store.get (env.norm id) = some k) (j : Nat) :
    (hasKey env (final env C (pre ++ post)) j id).1 = HasRes.yes
      ∧ (getKey env (final env C (pre ++ post)) j id).1 = some k := by
  rw [wf_append, Bool.and_eq_true] at hw
  have hpre := final_inv hw.1
  have hpost := run_inv C post hpre hw.2
  simp only [final, run_append]
  exact has_get_spec hpost.1 j (store_mono hpre hpost.1 hpost.2 hs)

/-- after `CreateKey(id)` generated `k` (on keystore `i`), whatever well-formed operations `post` follow
(evictions, restarts, other keystores), every keystore `j` has the key and returns `k` -/
theorem created_present_after (env : Env) (C : Crypto) (pre post : List Op) (i : Nat) (id : Id) (k : Key)
    (hw : wf env C State.init (pre ++ Op.create i id k :: post) = true) (j : Nat) :
    (hasKey env (final env C (pre ++ Op.create i id k :: post)) j id).1 = HasRes.yes
      ∧ (getKey env (final env C (pre ++ Op.create i id k :: post)) j id).1 = some k := by
  rw [List.append_cons] at hw ⊢
  refine stored_present hw ?_ j
  simp only [final, run_append, run, step, createKey, Store.get_put, if_true]

/-- whatever key any keystore returns at some point (found, or made by get-or-create), every keystore
returns for that id at the end of every well-formed continuation -/
theorem key_stable (env : Env) (C : Crypto) (pre post : List Op)
    (hw : wf env C State.init (pre ++ post) = true) (i : Nat) (id : Id) (k : Key)
    (hg : (getKey env (final env C pre) i id).1 = some k) (j : Nat) :
    (hasKey env (final env C (pre ++ post)) j id).1 = HasRes.yes
      ∧ (getKey env (final env C (pre ++ post)) j id).1 = some k := by
  have hpre : wf env C State.init pre = true := by
    rw [wf_append, Bool.and_eq_true] at hw
    exact hw.1
  rw [getKey_spec (final_inv hpre)] at hg
  exact stored_present hw hg j

/-- an id under whose datastore key nothing was ever created is reported absent by every keystore:
`HasKey` = `(false, ErrKeyNotInKeystore)`, `GetKey` = error -/
theorem never_created_absent (env : Env) (C : Crypto) (ops : List Op) (hw : wf env C State.init ops = true)
    (id : Id) (hn : ∀ id' k, (id', k) ∈ (final env C ops).created → env.norm id' ≠ env.norm id) (j : Nat) :
    (hasKey env (final env C ops) j id).1 = HasRes.err ∧ (getKey env (final env C ops) j id).1 = none := by
  refine has_get_spec (o := none) (final_inv hw) j (Option.eq_none_iff_forall_ne_some.mpr fun k hs => ?_)
  obtain ⟨id', hm, hn'⟩ := (final_inv hw).stored _ k hs
  exact hn id' k hm hn'

/-- `CreateIdentity` never fails -/
theorem identity_created (env : Env) (C : Crypto) (ops : List Op) (hw : wf env C State.init ops = true)
    (uid : Id) (r : Option Identity) (ho : Obs.ident uid r ∈ observed env C ops) : r ≠ none := by
  obtain ⟨ku, ki, rfl, _, _⟩ := identity_of hw ho
  exact Option.some_ne_none _

/-- creating an identity for the same user id twice — anywhere in the sequence, on the same or on
different keystores, whatever fresh key bytes are offered — yields the same identity (id, public key,
both signatures) -/
theorem identity_deterministic (env : Env) (C : Crypto) (ops : List Op) (hw : wf env C State.init ops = true)
    (uid : Id) (r r' : Option Identity)
    (ho : Obs.ident uid r ∈ observed env C ops) (ho' : Obs.ident uid r' ∈ observed env C ops) : r = r' := by
  obtain ⟨ku, ki, rfl, h2, h3⟩ := identity_of hw ho
  obtain ⟨ku', ki', rfl, h2', h3'⟩ := identity_of hw ho'
  cases h2.symm.trans h2'
  cases h3.symm.trans h3'
  rfl

/-- the id signature verifies under the identity's published public key -/
theorem id_signature_verifies (env : Env) (C : Crypto) (hC : C.Ideal) (ops : List Op)
    (hw : wf env C State.init ops = true) (uid : Id) (I : Identity)
    (ho : Obs.ident uid (some I) ∈ observed env C ops) :
    C.verify I.publicKey I.id I.sigId = true := by
  obtain ⟨ku, ki, h1, _, _⟩ := identity_of hw ho
  cases h1
  exact hC.verify_u ki _

/-- the public-key signature verifies under the key the id denotes: the id is the hex of a public key
`pk`, `pk` is the public key of the key stored for the user id, and the signature over
`hex(publicKey ++ idSignature)` verifies under `pk` -/
theorem pubkey_signature_verifies (env : Env) (C : Crypto) (hC : C.Ideal) (ops : List Op)
    (hw : wf env C State.init ops = true) (uid : Id) (I : Identity)
    (ho : Obs.ident uid (some I) ∈ observed env C ops) :
    ∃ pk ku, hexDec I.id = some pk ∧ pk = C.pubC ku
      ∧ (final env C ops).store.get (env.norm uid) = some ku
      ∧ C.verify pk (hexEnc (I.publicKey ++ I.sigId)) I.sigPub = true := by
  obtain ⟨ku, ki, h1, h2, _⟩ := identity_of hw ho
  cases h1
  exact ⟨C.pubC ku, ku, hexDec_hexEnc _ (hC.pubC_byte ku), rfl, h2, hC.verify_c ku _⟩

/-- an entry signed with the identity — `Provider.Sign(identity, data)` through ANY keystore `j` over the
datastore, at the end of any well-formed continuation — gets a signature that verifies under the
published key bytes (`entry.Key = identity.PublicKey`) -/
theorem entry_signature_verifies (env : Env) (C : Crypto) (hC : C.Ideal) (ops : List Op)
    (hw : wf env C State.init ops = true) (uid : Id) (I : Identity)
    (ho : Obs.ident uid (some I) ∈ observed env C ops) (j : Nat) (data : Bytes) :
    ∃ sig, (signEntry env C (final env C ops) j I.id data).1 = some sig
      ∧ C.verify I.publicKey data sig = true := by
  obtain ⟨ku, ki, h1, _, h3⟩ := identity_of hw ho
  cases h1
  refine ⟨C.sign ki data, ?_, hC.verify_u ki data⟩
  rw [signEntry_eq, getKey_spec (final_inv hw)]
  exact congrArg (Option.map (C.sign · data)) h3

/-- non-vacuity: a toy signature scheme satisfying `Crypto.Ideal` -/
def toyCrypto : Crypto where
  pubC k := 2 :: k.map (· % 256)
  pubU k := 4 :: k.map (· % 256)
  sign k m := k.map (· % 256) ++ m
  verify pub m sig := pub.tail ++ m == sig

theorem toyCrypto_ideal : toyCrypto.Ideal where
  verify_c k m := beq_self_eq_true _
  verify_u k m := beq_self_eq_true _
  pubC_byte k b hb := by
    simp only [toyCrypto, List.mem_cons, List.mem_map] at hb
    rcases hb with rfl | ⟨a, _, rfl⟩
    · decide
    · exact Nat.mod_lt _ (by decide)

def exEnv : Env := { cap := 2, norm := dsKey }

/-- `dsKey` on samples (`"a"`, `"/a"`, `"a/"`, `"x/../a"`, `"../a"` ↦ `"/a"`; `""`, `"."`, `".."` ↦ `"/"`; `"a//b/."` ↦ `"/a/b"`) -/
example : dsKey [97] = [47, 97] ∧ dsKey [47, 97] = [47, 97] ∧ dsKey [97, 47] = [47, 97]
    ∧ dsKey [120, 47, 46, 46, 47, 97] = [47, 97] ∧ dsKey [46, 46, 47, 97] = [47, 97]
    ∧ dsKey [] = [47] ∧ dsKey [46] = [47] ∧ dsKey [46, 46] = [47]
    ∧ dsKey [97, 47, 47, 98, 47, 46] = [47, 97, 47, 98] := by decide +kernel

/-- three ids through keystore 0 (capacity 2: the first is evicted), reads through keystores 0, 1 and a
restarted 0, an alias `/a` of `a`, an identity created on keystore 0 and again on keystore 1, an entry
signature through keystore 2 -/
def exOps : List Op :=
  [.create 0 [97] [1], .create 0 [98] [2], .create 0 [99] [3],
   .has 0 [97], .get 1 [97], .restart 0, .has 0 [99], .get 0 [47, 97], .has 1 [100],
   .createIdentity 0 [117] [7] [8], .create 1 [101] [5], .create 1 [102] [6],
   .createIdentity 1 [117] [9] [10],
   .signEntry 2 (hexEnc (toyCrypto.pubC [7])) [1, 2, 3]]

example : wf exEnv toyCrypto State.init exOps = true := by decide +kernel

example : observed exEnv toyCrypto exOps =
    [.unit, .unit, .unit, .has .yes, .key (some [1]), .unit, .has .yes, .key (some [1]), .has .err,
     .ident [117] (some (mkIdentity toyCrypto [7] [8])), .unit, .unit,
     .ident [117] (some (mkIdentity toyCrypto [7] [8])),
     .sig (some ([8] ++ [1, 2, 3]))] := by decide +kernel

/-- hypothesis H cannot be dropped: re-creating an id through another keystore leaves the first
keystore's cache stale (`GetKey` keeps returning the replaced key) -/
theorem recreate_breaks_coherence :
    let ops := [Op.create 0 [97] [1], Op.create 1 [97] [2]]
    wf exEnv toyCrypto State.init ops = false
      ∧ (getKey exEnv (final exEnv toyCrypto ops) 0 [97]).1 = some [1]
      ∧ (getKey exEnv (final exEnv toyCrypto ops) 1 [97]).1 = some [2] := by decide

end Model.C20
