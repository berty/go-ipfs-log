import Proofs.FetchReach
import Proofs.LoadersUnbounded
import Proofs.System
/-!
# C09 — a log rebuilt from its published heads equals the original (fetcher part)

`fetch_unbounded_complete`: for every accepted event list of the fetcher (every concurrency level,
heap order and block arrival order) with `length = -1` that ends quiescent and was not timed out, the
result is duplicate-free and is, as a set (indeed as a permutation), `reach store roots` — the
deterministic closure the loaders of `Model.Loaders` (and the `core` stream) are specified with.

`closure_eq_source` / `fetch_eq_source`: when the store contains a log state `E` (unique blocks per
hash), `E` is closed under `next` and `refs`, and every entry lies below one of the requested heads,
that closure is exactly `E`.  The hypotheses are the log invariant of C17/C02 (`SourceInStore`).

`load_eq_source`: fed with the result of *any* such execution, each of the four loaders of
`Model.Loaders` (no length limit) builds a log with the given id (the last entry's log id for
`NewFromEntry`) whose entry map holds exactly the hashes of `E`.

`rebuilt_equals_original`: for a replica `l` with the log invariant `Inv U l` (every
replica of every reachable system state, `Proofs.System.reachable_inv`), each loader on the result of
any such execution from `l`'s head hashes yields a log `L` with `SameLog U l L`: the invariant again,
the same id, the same entries, the same heads, and `values L = values l` whenever the ordering is a
strict total order on the entries (`OrderOk`; without it `Values()` is not a function of the entry set
at all — the C05 tie finding).  `copy_equals_original`: the same for a replica built in memory from another
one's entries.
-/
namespace Model.C09

theorem fetch_unbounded_complete (cfg : FCfg) (roots : List Hash) (evs : List FEvent) (s : FState)
    (hlen : cfg.length < 0) (hex : ∀ h, cfg.excluded h = false) (hundef : get? cfg.store [] = none)
    (h : accepted cfg roots evs = some s) (hq : quiescent s) (hc : s.cancelled = false) :
    (∀ e, e ∈ s.results ↔ e ∈ reach cfg.store roots) ∧ (s.results.map (·.hash)).Nodup ∧
      s.results.Perm (reach cfg.store roots) := by
  have hmem : ∀ e, e ∈ s.results ↔ e ∈ reach cfg.store roots := by
    intro e
    rw [unbounded_complete hlen h hq hc e, mem_reach_iff cfg roots hex hundef]
  have w := WF_accepted h
  refine ⟨hmem, w.resND, ?_⟩
  exact (List.perm_ext_iff_of_nodup (nodup_of_hashes_nodup w.resND)
    (nodup_of_hashes_nodup (reach_nodup cfg.store roots))).mpr hmem

/-- a log state `E` with head hashes `roots`, as the block store sees it -/
structure SourceInStore (cfg : FCfg) (E : List Entry) (roots : List Hash) : Prop where
  stored : ∀ e ∈ E, get? cfg.store e.hash = some e
  defined : ∀ e ∈ E, e.hash ≠ []
  rootsIn : ∀ h ∈ roots, ∃ e ∈ E, e.hash = h
  closed : ∀ e ∈ E, ∀ c ∈ e.next ++ e.refs, ∃ e' ∈ E, e'.hash = c
  below : ∀ e ∈ E, Anc cfg roots e.hash

theorem closure_eq_source (cfg : FCfg) (E : List Entry) (roots : List Hash)
    (hex : ∀ h, cfg.excluded h = false) (src : SourceInStore cfg E roots) (e : Entry) :
    (∃ h, Reach cfg roots h ∧ get? cfg.store h = some e) ↔ e ∈ E := by
  constructor
  · rintro ⟨h, r, hg⟩
    have hin : ∃ e' ∈ E, e'.hash = h := by
      clear hg
      induction r with
      | root a _ _ _ => exact src.rootsIn _ a
      | link _ hg' hc _ _ _ ih =>
        obtain ⟨ep, hep, rfl⟩ := ih
        cases hg'.symm.trans (src.stored ep hep)
        exact src.closed _ hep _ hc
    obtain ⟨e', he', rfl⟩ := hin
    cases hg.symm.trans (src.stored e' he')
    exact he'
  · intro he
    have key : ∀ h, Anc cfg roots h → (∃ e' ∈ E, e'.hash = h) ∧ Reach cfg roots h := by
      intro h a
      induction a with
      | root hm =>
        obtain ⟨e', he', rfl⟩ := src.rootsIn _ hm
        exact ⟨⟨e', he', rfl⟩, Reach.root hm (src.defined e' he') (hex _) (by rw [src.stored e' he']; rfl)⟩
      | next _ hg hc ih =>
        obtain ⟨⟨ep, hep, rfl⟩, rp⟩ := ih
        cases hg.symm.trans (src.stored ep hep)
        obtain ⟨e', he', rfl⟩ := src.closed _ hep _ (List.mem_append_left _ hc)
        exact ⟨⟨e', he', rfl⟩, Reach.link rp hg (List.mem_append_left _ hc) (src.defined e' he') (hex _)
          (by rw [src.stored e' he']; rfl)⟩
    exact ⟨e.hash, (key _ (src.below e he)).2, src.stored e he⟩

/-- the unbounded fetch from the heads of a stored log state returns exactly its entries -/
theorem fetch_eq_source (cfg : FCfg) (E : List Entry) (roots : List Hash) (evs : List FEvent) (s : FState)
    (hlen : cfg.length < 0) (hex : ∀ h, cfg.excluded h = false) (src : SourceInStore cfg E roots)
    (h : accepted cfg roots evs = some s) (hq : quiescent s) (hc : s.cancelled = false) :
    (∀ e, e ∈ s.results ↔ e ∈ E) ∧ (s.results.map (·.hash)).Nodup := by
  refine ⟨fun e => ?_, (WF_accepted h).resND⟩
  rw [unbounded_complete hlen h hq hc e, closure_eq_source cfg E roots hex src]

/-- all four loaders, without a limit, on the result of any accepted execution: same id, same entry set -/
theorem load_eq_source (cfg : FCfg) (E : List Entry) (roots : List Hash) (evs : List FEvent) (s : FState)
    (hlen : cfg.length < 0) (hex : ∀ h, cfg.excluded h = false) (src : SourceInStore cfg E roots)
    (h : accepted cfg roots evs = some s) (hq : quiescent s) (hc : s.cancelled = false)
    (clockId id : Bytes) (k k' : SortKind)
    -- the entries handed to `NewFromEntry`: members of the log, at least one
    (source : List Entry) (hsrc : ∀ e ∈ source, e ∈ E) (hne : source ≠ []) :
    ((∀ x, x ∈ hashes (loadManifest clockId k k' id roots s.results (-1)).entries ↔ x ∈ hashes E) ∧
      (loadManifest clockId k k' id roots s.results (-1)).id = id) ∧
    ((∀ x, x ∈ hashes (loadEntryHash clockId k id s.results (-1)).entries ↔ x ∈ hashes E) ∧
      (loadEntryHash clockId k id s.results (-1)).id = id) ∧
    ((∀ x, x ∈ hashes (loadJSON clockId k id s.results (-1)).entries ↔ x ∈ hashes E) ∧
      (loadJSON clockId k id s.results (-1)).id = id) ∧
    (∃ l, loadEntries clockId k source s.results (-1) = some l ∧
      (∀ x, x ∈ hashes l.entries ↔ x ∈ hashes E) ∧ ∃ last ∈ l.entries, l.id = last.logId) := by
  obtain ⟨hmem, _⟩ := fetch_eq_source cfg E roots evs s hlen hex src h hq hc
  have hh : ∀ x, x ∈ hashes s.results ↔ x ∈ hashes E := fun x =>
    ⟨hashes_subset fun e he => (hmem e).mp he, hashes_subset fun e he => (hmem e).mpr he⟩
  refine ⟨⟨fun x => ?_, rfl⟩, ⟨fun x => ?_, rfl⟩, ⟨fun x => ?_, rfl⟩, ?_⟩
  · rw [loadManifest_neg_one]
    exact (mem_hashes_omFromList _ x).trans (hh x)
  · rw [loadEntryHash_neg_one]
    exact (mem_hashes_omFromList _ x).trans (hh x)
  · rw [loadJSON_neg_one]
    exact (mem_hashes_omFromList _ x).trans ((mem_hashes_goSort _ _ x).trans (hh x))
  · obtain ⟨l, h1, _, h3, h4⟩ := loadEntries_unbounded clockId k source s.results hne
    refine ⟨l, h1, fun x => ?_, h4⟩
    rw [h3 x, hh x]
    exact ⟨fun h5 => h5.elim (hashes_subset hsrc) (fun h6 => h6), Or.inr⟩

/-! ## non-vacuity: a forked, merged log with a skip reference; two different schedules -/

def e1 : Entry := { hash := [1], logId := [7], next := [], refs := [], clock := { id := [4], time := 1 } }
def e2 : Entry := { hash := [2], logId := [7], next := [[1]], refs := [], clock := { id := [4], time := 2 } }
def e3 : Entry := { hash := [3], logId := [7], next := [[2]], refs := [[1]], clock := { id := [4], time := 3 } }
def e4 : Entry := { hash := [4], logId := [7], next := [[2]], refs := [], clock := { id := [5], time := 3 } }
def e5 : Entry := { hash := [5], logId := [7], next := [[3], [4]], refs := [[2]], clock := { id := [4], time := 4 } }

def cfgU : FCfg := { store := [e1, e2, e3, e4, e5], length := -1, excluded := fun _ => false }

/-- one request at a time -/
def runSeq : List FEvent :=
  [.dispatch [5], .complete [5] (some e5), .dispatch [2], .complete [2] (some e2), .dispatch [4],
   .complete [4] (some e4), .dispatch [3], .complete [3] (some e3), .dispatch [1], .complete [1] (some e1)]

/-- three requests in flight, completing out of order -/
def runPar : List FEvent :=
  [.dispatch [5], .complete [5] (some e5), .dispatch [3], .dispatch [4], .dispatch [2],
   .complete [2] (some e2), .dispatch [1], .complete [4] (some e4), .complete [1] (some e1),
   .complete [3] (some e3)]

example : (accepted cfgU [[5]] runSeq).map (·.results) = some [e5, e2, e4, e3, e1] := by decide +kernel
example : (accepted cfgU [[5]] runPar).map (·.results) = some [e5, e2, e4, e1, e3] := by decide +kernel
example : (accepted cfgU [[5]] runPar).map (fun s => decide (quiescent s) && !s.cancelled) = some true := by decide +kernel
example : reach cfgU.store [[5]] = [e5, e3, e4, e2, e1] := by decide +kernel
example : get? cfgU.store [] = none := by decide +kernel

example : SourceInStore cfgU [e1, e2, e3, e4, e5] [[5]] where
  stored := by decide +kernel
  defined := by decide +kernel
  rootsIn := by decide +kernel
  closed := by decide +kernel
  below := by
    have a5 : Anc cfgU [[5]] [5] := Anc.root (by decide)
    have a3 : Anc cfgU [[5]] [3] := Anc.next (e := e5) a5 (by decide) (by decide)
    have a4 : Anc cfgU [[5]] [4] := Anc.next (e := e5) a5 (by decide) (by decide)
    have a2 : Anc cfgU [[5]] [2] := Anc.next (e := e3) a3 (by decide) (by decide)
    have a1 : Anc cfgU [[5]] [1] := Anc.next (e := e2) a2 (by decide) (by decide)
    intro e he
    simp only [List.mem_cons, List.not_mem_nil, or_false] at he
    rcases he with rfl | rfl | rfl | rfl | rfl
    · exact a1
    · exact a2
    · exact a3
    · exact a4
    · exact a5

/-- what "equals the original" means for a rebuilt replica `L` of `l` -/
structure SameLog (U : List Entry) (l L : Log) : Prop where
  inv : Inv U L
  id : L.id = l.id
  entries : ∀ x, x ∈ L.entries ↔ x ∈ l.entries
  heads : ∀ x, x ∈ L.heads ↔ x ∈ l.heads
  values : L.sortFn = l.sortFn → OrderOk l.sortFn l.entries → values L = values l

theorem sameLog_of_newLog {U : List Entry} (hU : (hashes U).Nodup) {l : Log} (I : Inv U l)
    (ents heads : List Entry) (cid : Bytes) (k : SortKind)
    (hin : ∀ e ∈ ents, e ∈ l.entries) (hall : ∀ e ∈ l.entries, e ∈ ents)
    (hheads : heads = [] ∨ ((hashes heads).Nodup ∧ ∀ x, x ∈ heads ↔ x ∈ l.heads)) :
    SameLog U l (newLog l.id cid k ents heads) := by
  have hin' : ∀ e ∈ ents, e ∈ U := fun e he => I.inU e (hin e he)
  have hset : ∀ h, h ∈ hashes ents ↔ h ∈ hashes l.entries := fun h => ⟨hashes_subset hin, hashes_subset hall⟩
  obtain ⟨h1, h2, h3, h4⟩ := newLog_rebuilds hU I ents heads cid k hin' hset hheads
  refine ⟨h1, h2, h3, h4, ?_⟩
  intro hk ho
  have hk' : k = l.sortFn := hk
  subst hk'
  exact newLog_values hU I ents heads cid hin' hset hheads ho

/-- **C09, end to end in the model**: a replica `l` of a reachable system (`Inv U l`) whose entries are in
    the block store; *any* accepted unbounded execution of the fetcher from its head hashes; each of
    the four loaders on the result ⇒ a log with the same id, the same entries, the same heads and —
    under a strict total ordering — the same `Values()`. -/
theorem rebuilt_equals_original {U : List Entry} (hU : (hashes U).Nodup) {l : Log} (I : Inv U l)
    (cfg : FCfg) (roots : List Hash) (evs : List FEvent) (s : FState)
    (hroots : ∀ h, h ∈ roots ↔ h ∈ hashes l.heads)
    (hlen : cfg.length < 0) (hex : ∀ h, cfg.excluded h = false) (src : SourceInStore cfg l.entries roots)
    (h : accepted cfg roots evs = some s) (hq : quiescent s) (hc : s.cancelled = false)
    (clockId : Bytes) (k k' : SortKind) :
    SameLog U l (loadManifest clockId k k' l.id roots s.results (-1)) ∧
    SameLog U l (loadEntryHash clockId k l.id s.results (-1)) ∧
    SameLog U l (loadJSON clockId k l.id s.results (-1)) ∧
    -- `NewFromEntry` is handed entries of the log, at least one
    (∀ source : List Entry, (∀ e ∈ source, e ∈ l.entries) → source ≠ [] →
      ∃ L, loadEntries clockId k source s.results (-1) = some L ∧ SameLog U l L) := by
  obtain ⟨hmem, hnd⟩ := fetch_eq_source cfg l.entries roots evs s hlen hex src h hq hc
  have hin : ∀ e ∈ s.results, e ∈ l.entries := fun e he => (hmem e).mp he
  have hall : ∀ e ∈ l.entries, e ∈ s.results := fun e he => (hmem e).mpr he
  refine ⟨?_, ?_, ?_, ?_⟩
  · rw [loadManifest_neg_one]
    refine sameLog_of_newLog hU I _ _ _ _ hin hall (Or.inr ⟨?_, fun x => ?_⟩)
    · exact List.Nodup.sublist (List.filter_sublist.map _) hnd
    · -- the fetched entries whose hash the manifest names are the heads
      rw [List.mem_filter, List.contains_iff_mem, hroots, hmem]
      exact ⟨fun ⟨hx, hh⟩ => mem_of_has hU (fun y hy => I.inU y (I.headsIn y hy)) (I.inU x hx)
          (has_iff_mem_hashes.mpr hh),
        fun hx => ⟨I.headsIn x hx, mem_hashes.mpr ⟨x, hx, rfl⟩⟩⟩
  · rw [loadEntryHash_neg_one]
    exact sameLog_of_newLog hU I _ _ _ _ hin hall (Or.inl rfl)
  · rw [loadJSON_neg_one]
    exact sameLog_of_newLog hU I _ _ _ _ (fun e he => hin e (mem_goSort.mp he))
      (fun e he => mem_goSort.mpr (hall e he)) (Or.inl rfl)
  · intro source hsrc hne
    obtain ⟨lastE, hlast, heq⟩ := loadEntries_unbounded_eq clockId k source s.results hne
    have hsub : ∀ e ∈ source ++ s.results, e ∈ l.entries := fun e he =>
      (List.mem_append.mp he).elim (hsrc e) (hin e)
    have hm : ∀ e, e ∈ goSort clockAsc (omFromList (source ++ s.results)) ↔ e ∈ source ++ s.results := fun e =>
      mem_goSort.trans (mem_omFromList_iff hU fun x hx => I.inU x (hsub x hx))
    refine ⟨_, heq, ?_⟩
    rw [I.logId lastE (hsub lastE ((hm lastE).mp hlast))]
    exact sameLog_of_newLog hU I _ _ _ _ (fun e he => hsub e ((hm e).mp he))
      (fun e he => (hm e).mpr (List.mem_append_right _ (hall e he))) (Or.inl rfl)

/-! ## non-vacuity of `rebuilt_equals_original`: the five-entry log above as a replica -/

def l5 : Log := { id := [7], entries := [e1, e2, e3, e4, e5], heads := [e5], nextIdx := [[1], [2], [3], [4]],
                  clock := { id := [4], time := 4 }, sortFn := .lww }

theorem inv_l5 : Inv [e1, e2, e3, e4, e5] l5 where
  inU := fun _ h => h
  nodup := by decide
  closed := by decide
  mono := fun e he _ hc p hp =>
    (by decide : ∀ e ∈ l5.entries, ∀ p ∈ l5.entries, p.hash ∈ e.next → p.clock.time < e.clock.time)
      e he p (get?_mem hp).1 ((get?_mem hp).2 ▸ hc)
  headsIn := by decide
  headsNodup := by decide
  headsSpec := by unfold namedBy; decide
  headsUnref := by unfold namedBy; decide
  nextIdx := by
    intro h
    simp [namedBy, l5, e1, e2, e3, e4, e5]
  logId := by decide

example : ∃ L, loadEntries [9] .lww [e5] [e5, e2, e4, e1, e3] (-1) = some L ∧ values L = values l5 := by
  decide

/-- a replica constructed in memory from another one's entries (the live map, a copy, or its linearisation)
    with or without its heads is that replica again — and, the model being a value, owns its state -/
theorem copy_equals_original {U : List Entry} (hU : (hashes U).Nodup) {l : Log} (I : Inv U l) (cid : Bytes) (k : SortKind) :
    SameLog U l (newLog l.id cid k l.entries l.heads) ∧
    SameLog U l (newLog l.id cid k l.entries []) ∧
    (OrderOk l.sortFn l.entries → SameLog U l (newLog l.id cid k (values l) l.heads)) := by
  refine ⟨?_, ?_, ?_⟩
  · exact sameLog_of_newLog hU I _ _ _ _ (fun _ h => h) (fun _ h => h) (Or.inr ⟨I.headsNodup, fun _ => Iff.rfl⟩)
  · exact sameLog_of_newLog hU I _ _ _ _ (fun _ h => h) (fun _ h => h) (Or.inl rfl)
  · intro ho
    exact sameLog_of_newLog hU I _ _ _ _ (fun e he => (values_perm I ho).mem_iff.mp he)
      (fun e he => (values_perm I ho).mem_iff.mpr he) (Or.inr ⟨I.headsNodup, fun _ => Iff.rfl⟩)

end Model.C09
