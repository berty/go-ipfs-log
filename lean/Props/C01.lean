import Proofs.System
/-!
# C01 — replicas that merged the same entries converge (join is a CRDT merge)

`Reachable s`: `s` is reached from the empty system by ANY finite history of `newLog`, `append`
(fresh hash), unbounded `join` (any pair, any order, any repetition), `setIdentity` and `rebuild` (a
replica built from another one's entries), over any number of replicas and writers.  `s.know r` is the
set of appended entries replica `r` has merged directly or transitively.
-/
namespace Model.C01

theorem same_state {U : List Entry} {a b : Log} (Ia : Inv U a) (Ib : Inv U b)
    (hE : ∀ x, x ∈ a.entries ↔ x ∈ b.entries) :
    (∀ x, x ∈ a.entries ↔ x ∈ b.entries) ∧ (∀ x, x ∈ a.heads ↔ x ∈ b.heads) :=
  ⟨hE, heads_fn_of_set Ia Ib hE⟩

/-- `know` is the set of hashes a replica holds, so `inv_convergence` applies -/
theorem converge {s : Sys} (hr : Reachable s) {r₁ r₂ : Nat} {a b : Log} (ha : s.logs r₁ = some a) (hb : s.logs r₂ = some b)
    (hk : ∀ h, h ∈ s.know r₁ ↔ h ∈ s.know r₂) :
    a.entries.Perm b.entries ∧ (∀ x, x ∈ a.heads ↔ x ∈ b.heads) ∧
      (a.sortFn = b.sortFn → OrderOk a.sortFn a.entries → values a = values b) :=
  have I := reachable_inv hr
  inv_convergence I.uni (I.inv r₁ a ha) (I.inv r₂ b hb) fun h => by rw [← I.know r₁ a ha, ← I.know r₂ b hb, hk]

/-- Two replicas that have merged the same set of appended entries expose the same set of entries and
    the same heads — whatever the order, grouping or repetition of the merges. -/
theorem convergence {s : Sys} (hr : Reachable s) {r₁ r₂ : Nat} {a b : Log}
    (ha : s.logs r₁ = some a) (hb : s.logs r₂ = some b)
    (hk : ∀ h, h ∈ s.know r₁ ↔ h ∈ s.know r₂) :
    (∀ x, x ∈ a.entries ↔ x ∈ b.entries) ∧ (∀ x, x ∈ a.heads ↔ x ∈ b.heads) := by
  obtain ⟨hp, hh, _⟩ := converge hr ha hb hk
  exact ⟨fun _ => hp.mem_iff, hh⟩

/-- Two such replicas also expose the identical linearised sequence of values, when the configured
    ordering is a strict total order on their entries (always for the hash tie-break; for the default
    ordering when no two distinct entries carry the same clock id and time). -/
theorem convergence_values {s : Sys} (hr : Reachable s) {r₁ r₂ : Nat} {a b : Log}
    (ha : s.logs r₁ = some a) (hb : s.logs r₂ = some b)
    (hk : ∀ h, h ∈ s.know r₁ ↔ h ∈ s.know r₂)
    (hsf : a.sortFn = b.sortFn) (ho : OrderOk a.sortFn a.entries) : values a = values b :=
  (converge hr ha hb hk).2.2 hsf ho

/-- the entry set of a merge is the union of the two entry sets: hence merge is commutative,
    associative and idempotent on (entry set, head set), and on the values where `values_fn_of_set` applies
    (one ordering, a strict total order on the entries) -/
theorem join_entries {U : List Entry} (hU : (hashes U).Nodup) {A B : Log} (IA : Inv U A) (IB : Inv U B)
    (hid : A.id = B.id) (x : Entry) : x ∈ (joinU A B).entries ↔ x ∈ A.entries ∨ x ∈ B.entries :=
  mem_jEntries hU IA IB hid

theorem join_comm {U : List Entry} (hU : (hashes U).Nodup) {A B : Log} (IA : Inv U A) (IB : Inv U B)
    (hid : A.id = B.id) :
    (∀ x, x ∈ (joinU A B).entries ↔ x ∈ (joinU B A).entries) ∧
    (∀ x, x ∈ (joinU A B).heads ↔ x ∈ (joinU B A).heads) := by
  refine same_state (inv_join hU IA IB hid) (inv_join hU IB IA hid.symm) fun x => ?_
  rw [join_entries hU IA IB hid, join_entries hU IB IA hid.symm]
  exact Or.comm

theorem join_idem {U : List Entry} (hU : (hashes U).Nodup) {A B : Log} (IA : Inv U A) (IB : Inv U B)
    (hid : A.id = B.id) :
    (∀ x, x ∈ (joinU (joinU A B) B).entries ↔ x ∈ (joinU A B).entries) ∧
    (∀ x, x ∈ (joinU (joinU A B) B).heads ↔ x ∈ (joinU A B).heads) := by
  have IJ := inv_join hU IA IB hid
  have hid' : (joinU A B).id = B.id := hid
  refine same_state (inv_join hU IJ IB hid') IJ fun x => ?_
  rw [join_entries hU IJ IB hid', join_entries hU IA IB hid, or_assoc, or_self]

theorem join_assoc {U : List Entry} (hU : (hashes U).Nodup) {A B C : Log} (IA : Inv U A) (IB : Inv U B)
    (IC : Inv U C) (hab : A.id = B.id) (hbc : B.id = C.id) :
    (∀ x, x ∈ (joinU (joinU A B) C).entries ↔ x ∈ (joinU A (joinU B C)).entries) ∧
    (∀ x, x ∈ (joinU (joinU A B) C).heads ↔ x ∈ (joinU A (joinU B C)).heads) := by
  have IAB := inv_join hU IA IB hab
  have IBC := inv_join hU IB IC hbc
  have h1 : (joinU A B).id = C.id := hab.trans hbc
  have h2 : A.id = (joinU B C).id := hab
  refine same_state (inv_join hU IAB IC h1) (inv_join hU IA IBC h2) fun x => ?_
  rw [join_entries hU IAB IC h1, join_entries hU IA IB hab, join_entries hU IA IBC h2,
    join_entries hU IB IC hbc]
  exact or_assoc

/-- merging a log with itself, or with a log of a different id, changes nothing -/
theorem join_self (s : Sys) (r : Nat) (a : Log) (ha : s.logs r = some a) : s.step (.join r r) = some s := by
  simp [Sys.step, ha]

theorem join_other_id_unchanged (A : Log) (otherId : Bytes) (E H : List Entry) (size : Int)
    (hid : A.id ≠ otherId) : join A otherId E H size = .ok A := join_other_id A otherId E H size _ hid

/-- merging with an empty log changes neither the entries nor the heads -/
theorem join_empty {U : List Entry} (hU : (hashes U).Nodup) {A : Log} (IA : Inv U A) (cid : Bytes) (k : SortKind) :
    (∀ x, x ∈ (joinU A (emptyLog A.id cid k)).entries ↔ x ∈ A.entries) ∧
    (∀ x, x ∈ (joinU A (emptyLog A.id cid k)).heads ↔ x ∈ A.heads) := by
  have IB := inv_emptyLog U A.id cid k
  refine same_state (inv_join hU IA IB rfl) IA fun x => ?_
  rw [join_entries hU IA IB rfl]
  simp [emptyLog]

/-! non-vacuity: a concrete history with a fork and merges in both directions is reachable, and the
two replicas end with the same `know` set -/
def w1 : Bytes := [4, 1]
def w2 : Bytes := [4, 2]
def demoOps : List Op :=
  [.newLog [88] w1 .lww, .newLog [88] w2 .lww, .append 0 0 [1] 0, .append 1 0 [2] 0, .append 0 0 [3] 0,
   .join 0 1, .join 1 0, .append 1 2 [4] 0, .join 0 1]

def demoEntries (r : Nat) : Option (List Hash) :=
  match Sys.init.run demoOps with
  | some s => (s.logs r).map (fun l => (values l).map (·.hash))
  | none => none

example : demoEntries 0 = some [[1], [2], [3], [4]] ∧ demoEntries 1 = some [[1], [2], [3], [4]] := by decide +kernel

/-- histories also contain replicas rebuilt from another one — by the constructor from its live entries,
    or by a loader from what a fetch delivered (`Op.rebuild`: the source's entries in any order, heads
    handed over or recomputed): the rebuilt replica has merged what its source had, so `convergence`
    applies to it like to any other replica.  Here: replica 0 rebuilt from its entries in reverse order,
    without heads, then joined by a replica that is behind. -/
def demoRebuilt : Option (List Hash × List Hash × List Hash) :=
  match Sys.init.run demoOps with
  | some s =>
    match s.logs 0 with
    | some l =>
      match s.step (.rebuild 0 [4, 3] l.entries.reverse false) with
      | some s1 =>
        match s1.run [.newLog [88] [4, 4] .lww, .join 3 2] with
        | some s2 => some (((s2.logs 2).map (fun l => hashes (values l))).getD [],
                           ((s2.logs 3).map (fun l => hashes (values l))).getD [],
                           ((s2.logs 2).map (fun l => hashes l.heads)).getD [])
        | none => none
      | none => none
    | none => none
  | none => none

example : demoRebuilt = some ([[1], [2], [3], [4]], [[1], [2], [3], [4]], [[4]]) := by decide +kernel

/-- the rebuilt replica equals its source: entries, heads, id, ordering -/
theorem rebuild_equals_source {s s' : Sys} (hr : Reachable s) {src : Nat} {cid : Bytes} {ents : List Entry} {wh : Bool}
    (hstep : s.step (.rebuild src cid ents wh) = some s') :
    ∃ l L, s.logs src = some l ∧ s'.logs s.n = some L ∧ L.id = l.id ∧ L.sortFn = l.sortFn ∧
      (∀ x, x ∈ L.entries ↔ x ∈ l.entries) ∧ (∀ x, x ∈ L.heads ↔ x ∈ l.heads) := by
  cases step_shape hstep with | @rebuild _ l _ _ _ hl hg => ?_
  have I := reachable_inv hr
  obtain ⟨_, h2, h3, h4, h5⟩ := rebuild_spec I.uni (I.inv src l hl) cid wh hg
  exact ⟨l, _, hl, upd_same _ _ _, h2, h5, h3, h4⟩

end Model.C01
