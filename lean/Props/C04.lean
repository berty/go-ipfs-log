import Proofs.AppendRefs
import Proofs.System
/-!
# C04 — every appended entry dominates the log it was appended to

For every replica of every reachable system (any history of appends and merges before the append,
any writer) and every pointer count (`pc : Int`, including 0 = default and negatives).
`(append l pc h tag).1` is the entry `Append` returns, `.2` the log afterwards.
-/
namespace Model.C04

/-- the predecessors are exactly the current heads (as a list: the sorted heads, reversed) -/
theorem next_is_heads {s : Sys} (hr : Reachable s) {r : Nat} {l : Log} (hl : s.logs r = some l)
    (pc : Int) (h : Hash) (tag : Nat) :
    (∀ n, n ∈ (append l pc h tag).1.next ↔ n ∈ hashes l.heads) ∧
    (append l pc h tag).1.next = (hashes (sortedHeads l)).reverse ∧
    ((append l pc h tag).1.next).Nodup :=
  -- all three hold of any log: `Append` de-duplicates the hashes of the sorted heads, which are distinct already
  ⟨fun _ => mem_appendPlan_next l pc, appendPlan_next_eq l pc, dedupHashes_nodup _ [] List.nodup_nil⟩

/-- the clock id is the log's clock id — the writer's public key (`NewLog`/`SetIdentity` set it) -/
theorem clock_id_is_writer (l : Log) (pc : Int) (h : Hash) (tag : Nat) :
    (append l pc h tag).1.clock.id = l.clock.id := rfl

theorem newLog_clock_id (id cid : Bytes) (k : SortKind) : (emptyLog id cid k).clock.id = cid := rfl
theorem setIdentity_clock_id (l : Log) (cid : Bytes) : (setIdentity l cid).clock.id = cid := rfl

/-- the clock time is strictly greater than that of every entry already in the log (including
    entries merged in from other writers) -/
theorem time_dominates {s : Sys} (hr : Reachable s) {r : Nat} {l : Log} (hl : s.logs r = some l)
    (pc : Int) (h : Hash) (tag : Nat) :
    ∀ x ∈ l.entries, x.clock.time < (append l pc h tag).1.clock.time :=
  fun x hx => appendPlan_time_gt ((reachable_inv hr).inv r l hl) pc x hx

/-- the new entry becomes the log's single head -/
theorem single_head (l : Log) (pc : Int) (h : Hash) (tag : Nat) :
    (append l pc h tag).2.heads = [(append l pc h tag).1] :=
  append_snd_heads l pc h tag

/-- the skip references are entries of the log (hence of the new entry's causal past, which is the
    whole log), distinct from the predecessors, without duplicates -/
theorem refs_in_past {s : Sys} (hr : Reachable s) {r : Nat} {l : Log} (hl : s.logs r = some l)
    (pc : Int) (h : Hash) (tag : Nat) :
    (∀ x ∈ (append l pc h tag).1.refs, x ∈ hashes l.entries ∧ x ∉ (append l pc h tag).1.next) ∧
    ((append l pc h tag).1.refs).Nodup :=
  appendPlan_refs ((reachable_inv hr).inv r l hl) pc

/-- every entry of the log is in the causal past of the new entry: it lies below one of the heads
    the new entry names -/
theorem whole_log_in_past {s : Sys} (hr : Reachable s) {r : Nat} {l : Log} (hl : s.logs r = some l)
    (pc : Int) (h : Hash) (tag : Nat) (x : Entry) (hx : x ∈ l.entries) :
    ∃ hd ∈ l.heads, hd.hash ∈ (append l pc h tag).1.next ∧ Desc l.entries hd x := by
  have I := (reachable_inv hr).inv r l hl
  obtain ⟨hd, hhd, hdesc⟩ := every_entry_below_some_head I x hx
  exact ⟨hd, hhd, (mem_appendPlan_next l pc).mpr (List.mem_map.mpr ⟨hd, hhd, rfl⟩), hdesc⟩

/-- the skip references are at most logarithmic in the requested pointer count:
    `⌊log₂ (max pc 1)⌋ + 1` (0 = default pointer count 1; negative counts give no references) -/
theorem refs_logarithmic {s : Sys} (hr : Reachable s) {r : Nat} {l : Log} (hl : s.logs r = some l)
    (pc : Int) (h : Hash) (tag : Nat) :
    (append l pc h tag).1.refs.length ≤ Nat.log2 (max pc 1).toNat + 1 :=
  -- holds of any log: the bound comes from the doubling loop alone
  appendPlan_refs_length l pc

end Model.C04
