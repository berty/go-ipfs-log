import Generated.GenViews
import Props.GenTraverse
/-!
# Props.GenViews — the view functions of the log, translated: `values`, `ToJSONLog`, `ToSnapshot`, `Heads` (log.go)

They are what the model (and the correspondence driver, `Driver/Core.lean`) takes the views to be: `Model.values`,
`Model.jsonHeads`, the pair (hashes of the heads in map order, `Model.values`), `Model.sortedHeads`.
`none` stands for a run-time panic (`values` ignores the error of `traverse` and calls a method on its nil result):
the theorems show it does not happen.
-/
namespace Model.SlicesGen
open Model Model.Go

/-- hashes are CIDs: none is the empty string, which the code's `traverse` takes for "no end hash" -/
theorem values_eq (l : Log) (hE : ∀ e ∈ l.entries, e.hash ≠ []) (hH : ∀ e ∈ l.heads, e.hash ≠ []) :
    Generated.Go.values (traverseFuel l.entries l.heads) l.entries (before l.sortFn) l.heads = some (Model.values l) := by
  have htr := traverse_eq l.entries (before l.sortFn) l.heads (-1) none (fun _ => ⟨hE, hH⟩)
  simp only [Option.getD_none] at htr
  unfold Generated.Go.values
  simp only [htr]
  rfl

theorem toJSONLog_eq (l : Log) :
    Generated.Go.toJSONLog l.entries (before l.sortFn) l.heads = jsonHeads l := by
  unfold Generated.Go.toJSONLog jsonHeads
  simp only [gohelper, foldl_snoc, List.nil_append]

theorem heads_eq (l : Log) : Generated.Go.heads l.entries (before l.sortFn) l.heads = sortedHeads l := rfl

theorem toSnapshot_eq (l : Log) (hE : ∀ e ∈ l.entries, e.hash ≠ []) (hH : ∀ e ∈ l.heads, e.hash ≠ []) :
    Generated.Go.toSnapshot (traverseFuel l.entries l.heads) l.entries (before l.sortFn) l.heads =
      some (hashes l.heads, Model.values l) := by
  unfold Generated.Go.toSnapshot
  simp only [values_eq l hE hH, gohelper, foldl_snoc, List.nil_append]
  rfl

end Model.SlicesGen
