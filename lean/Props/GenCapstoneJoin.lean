import Props.GenJoin
import Props.GenJoinTail
import Props.C16
/-!
# Props.GenCapstoneJoin — C01, C02, C05, C14 stated about the TRANSLATED `Join`

The property theorems (`Props/C01 … C20`) are about the hand-written model; `Props/Gen*.lean` prove the code, as
translated from the Go source on every run, equal to that model.  Here the two are composed for `Join`, so that the
operations in the statements are the generated definitions (the call `l.values()` in the tail of `Join` is a parameter
of the translation; the model's `values` stands for it, and the size `-1` never reaches it):

* `translated_join_preserves_inv`: on any two replicas of one log that satisfy the structural invariant (`Inv`:
  entries closed under `next`, heads = exactly the unreferenced entries, `Next` = exactly the named hashes, clock
  times increasing along links, …) the translated `difference` returns the candidates and the translated tail of
  `Join` returns — without panicking — a state that satisfies the invariant again (C01, C02, C14).
* `translated_join_union`: the entries that state holds are exactly those either replica held (C01, C05).
-/
namespace Model.Capstone
open Model Model.Go Model.SlicesGen

/-- `joinTail_eq` with a replica as the other log (neither the size bound nor the clock update touches the clock id).
    At the size `-1`, which trims nothing, `joinN A B (-1)` is `joinU A B` by evaluation. -/
theorem joinTail_joinN (A B : Log) (n : Int) :
    Generated.Go.joinTail (fun E H => values { A with entries := E, heads := H })
      A.entries A.nextIdx A.heads A.clock.id A.clock.time (difference B.entries B.heads A) B.heads n =
    some (A.clock.id, (C16.joinN A B n).clock.time, (C16.joinN A B n).entries, (C16.joinN A B n).nextIdx,
      (C16.joinN A B n).heads) := by
  have hcid : (C16.joinN A B n).clock.id = A.clock.id := by
    unfold C16.joinN joinClock joinTrim
    split <;> rfl
  rw [joinTail_eq A B.entries B.heads n, ← hcid]
  rfl

theorem translated_join_preserves_inv {U : List Entry} (hU : (hashes U).Nodup) {A B : Log}
    (IA : Inv U A) (IB : Inv U B) (hid : A.id = B.id) :
    ∃ (cands E' : List Entry) (N' : List Hash) (H' : List Entry) (t : Int),
      Generated.Go.logDifference (diffFuel B.entries B.heads) B.entries B.heads A.entries A.id = some cands ∧
      Generated.Go.joinTail (fun E H => values { A with entries := E, heads := H })
        A.entries A.nextIdx A.heads A.clock.id A.clock.time cands B.heads (-1) = some (A.clock.id, t, E', N', H') ∧
      Inv U { A with entries := E', nextIdx := N', heads := H', clock := { id := A.clock.id, time := t } } :=
  ⟨_, _, _, _, _, logDifference_eq B.entries B.heads A, joinTail_joinN A B (-1), inv_join hU IA IB hid⟩

/-- **the translated merge is the union** (C01: commutative, associative, idempotent on entry sets; C05: nothing a
    replica holds is lost): what the translated tail of `Join` returns as entries is exactly what either log held -/
theorem translated_join_union {U : List Entry} (hU : (hashes U).Nodup) {A B : Log}
    (IA : Inv U A) (IB : Inv U B) (hid : A.id = B.id)
    (cands E' : List Entry) (N' : List Hash) (H' : List Entry) (t : Int)
    (hd : Generated.Go.logDifference (diffFuel B.entries B.heads) B.entries B.heads A.entries A.id = some cands)
    (ht : Generated.Go.joinTail (fun E H => values { A with entries := E, heads := H })
        A.entries A.nextIdx A.heads A.clock.id A.clock.time cands B.heads (-1) = some (A.clock.id, t, E', N', H')) :
    ∀ x, x ∈ E' ↔ x ∈ A.entries ∨ x ∈ B.entries := by
  cases (logDifference_eq B.entries B.heads A).symm.trans hd
  cases (joinTail_joinN A B (-1)).symm.trans ht
  exact fun _ => mem_jEntries hU IA IB hid

end Model.Capstone
