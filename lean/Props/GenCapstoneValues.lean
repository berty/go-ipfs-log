import Props.GenTraverse
import Proofs.Values
/-!
# Props.GenCapstoneValues — C03 stated about the TRANSLATED `traverse`

`traverse_eq` identifies the translated `IPFSLog.traverse` (with the model's fuel) with `Model.traverseG`; composed with
the theorems of `Proofs/Values.lean` this gives a statement that mentions only the generated definition:
`translated_values` — on a replica that satisfies the structural invariant and whose ordering is a strict total order
on its entries, the translated traversal from the heads returns every entry exactly once, newest first under the
log's ordering, no entry before one that names it; reversed it is the model's `values`.
-/
namespace Model.Capstone
open Model Model.Go Model.SlicesGen

theorem translated_values {U : List Entry} {l : Log} (I : Inv U l) (ho : OrderOk l.sortFn l.entries)
    (hE : ∀ e ∈ l.entries, e.hash ≠ []) :
    ∃ out, Generated.Go.traverse (traverseFuel l.entries l.heads) l.entries (before l.sortFn) l.heads (-1) [] = some out ∧
      out.reverse = values l ∧ out.Perm l.entries ∧ out.Nodup ∧
      out.reverse.Pairwise (fun a b => b.hash ∉ a.next) ∧
      out.reverse.Pairwise (fun a b => before l.sortFn b a = true) := by
  have htr := traverse_eq l.entries (before l.sortFn) l.heads (-1) none (fun _ => ⟨hE, fun e he => hE e (I.headsIn e he)⟩)
  -- `values l` is this traversal reversed
  exact ⟨_, htr, rfl, (List.reverse_perm _).symm.trans (values_perm I ho), (List.reverse_perm _).nodup_iff.mp (values_nodup I ho),
    Model.values_causal I ho, Model.values_sorted I ho⟩

end Model.Capstone
