import Props.GenLoaders
import Props.GenNewLog
import Proofs.Rebuild
import Proofs.LoadersUnbounded
import Props.C09
/-!
# Props.GenCapstoneRebuild — C09 stated about the TRANSLATED loader glue and `NewLog` core

For a replica that satisfies the structural invariant and any fetch result holding exactly its entries (each once,
in any arrival order — what `Props/C09` proves of every accepted execution of the fetcher from its heads), the
translated glue of `fromJSON` (no length limit) returns the sorted entries, and the translated core of `NewLog`
(clock time, heads, index keys) makes of them a log with the same entries, the same heads, satisfying the invariant
again (`translated_rebuild_json`; the statement mentions only generated definitions and the record they fill).
`translated_rebuilt_equals_original`: for any accepted unbounded execution of the fetcher from the head hashes, the
translated glue of each of the four loaders returns (no panic) what `NewLog` turns into a log with the same id, entries,
heads and, under a strict total order, values (`C09.SameLog`); it is `C09.rebuilt_equals_original` read through
`fromMultihash_eq`, `fromEntryHash_eq`, `fromJSON_eq`, `fromEntry_eq`.
-/
namespace Model.Capstone
open Model Model.Go Model.SlicesGen

theorem fromJSONTail_unbounded (fetched : List Entry) :
    Generated.Go.fromJSONTail none fetched = some (goSort clockAsc fetched) := by
  unfold Generated.Go.fromJSONTail Generated.Go.fromJSONTail_join1
  simp

theorem translated_rebuild_json {U : List Entry} (hU : (hashes U).Nodup) {l : Log} (I : Inv U l)
    (fetched : List Entry) (hnd : (hashes fetched).Nodup) (hin : ∀ e ∈ fetched, e ∈ U)
    (hset : ∀ h, h ∈ hashes fetched ↔ h ∈ hashes l.entries) (cid : Bytes) :
    ∃ (ents : List Entry) (t : Int) (H : List Entry) (N : List Hash),
      Generated.Go.fromJSONTail none fetched = some ents ∧
      Generated.Go.newLogCore none [] ents = (t, H, N) ∧
      (∀ x, x ∈ ents ↔ x ∈ l.entries) ∧ (∀ x, x ∈ H ↔ x ∈ l.heads) ∧
      Inv U { id := l.id, entries := ents, heads := H, nextIdx := N, clock := ⟨cid, t⟩, sortFn := l.sortFn } := by
  have hnd' : (hashes (goSort clockAsc fetched)).Nodup := goSort_hashes_nodup _ hnd
  obtain ⟨hInv, _, hE, hH⟩ := newLog_rebuilds hU I (goSort clockAsc fetched) [] cid l.sortFn
    (fun e he => hin e (mem_goSort.mp he)) (fun h => (mem_hashes_goSort clockAsc fetched h).trans (hset h)) (Or.inl rfl)
  -- the record the translated functions fill is the model's `newLog` of the sorted entries
  have hL : newLog l.id cid l.sortFn (goSort clockAsc fetched) [] =
      { id := l.id, entries := goSort clockAsc fetched,
        heads := (newLog l.id cid l.sortFn (goSort clockAsc fetched) []).heads,
        nextIdx := (newLog l.id cid l.sortFn (goSort clockAsc fetched) []).nextIdx,
        clock := ⟨cid, (newLog l.id cid l.sortFn (goSort clockAsc fetched) []).clock.time⟩, sortFn := l.sortFn } := by
    unfold newLog
    simp only [omFromList_eq_self hnd']
  rw [hL] at hInv hE
  exact ⟨_, _, _, _, fromJSONTail_unbounded fetched, newLogCore_eq l.id cid l.sortFn _ [] hnd', hE, hH, hInv⟩

/-- **C09 for all four loaders on the translated glue** (the replica's entries are in the block store; every
    concurrency level and completion order of the fetcher; the core of `NewLog` is translated too, `newLogCore_eq`) -/
theorem translated_rebuilt_equals_original {U : List Entry} (hU : (hashes U).Nodup) {l : Log} (I : Inv U l)
    (cfg : FCfg) (roots : List Hash) (evs : List FEvent) (s : FState)
    (hroots : ∀ h, h ∈ roots ↔ h ∈ hashes l.heads) (hrnd : roots.Nodup)
    (hlen : cfg.length < 0) (hex : ∀ h, cfg.excluded h = false) (src : C09.SourceInStore cfg l.entries roots)
    (h : accepted cfg roots evs = some s) (hq : quiescent s) (hc : s.cancelled = false)
    (clockId : Bytes) (k k' : SortKind) :
    -- NewFromMultihash
    (∃ vals hs, Generated.Go.fromMultihashTail (beforeAsc k') none roots s.results = some (vals, hs) ∧
      C09.SameLog U l (newLog l.id clockId k (Generated.Go.newFromMultihashHeads vals hs).1
        (Generated.Go.newFromMultihashHeads vals hs).2)) ∧
    -- NewFromEntryHash
    (∃ ents, Generated.Go.fromEntryHashTail (beforeAsc .lww) s.results (Generated.Go.fromEntryHashLength none) = some ents ∧
      C09.SameLog U l (newLog l.id clockId k ents [])) ∧
    -- NewFromJSON
    (∃ ents, Generated.Go.fromJSONTail none s.results = some ents ∧ C09.SameLog U l (newLog l.id clockId k ents [])) ∧
    -- NewFromEntry, handed entries of the log (at least one)
    (∀ source : List Entry, (∀ e ∈ source, e ∈ l.entries) → source ≠ [] →
      ∃ r, Generated.Go.fromEntryTail [] source s.results (Generated.Go.fromEntryLength none source) = some r ∧
        C09.SameLog U l (newLog r.1 clockId k r.2 [])) := by
  obtain ⟨hM, hEH, hJ, hE⟩ := C09.rebuilt_equals_original hU I cfg roots evs s hroots hlen hex src h hq hc clockId k k'
  obtain ⟨_, hnd⟩ := C09.fetch_eq_source cfg l.entries roots evs s hlen hex src h hq hc
  -- each glue, mapped through `NewLog`, is the model's loader: it returned, and what it returned makes the model's log
  refine ⟨?_, ?_, ?_, ?_⟩
  · obtain ⟨vals, hs, ht, hn⟩ := fromMultihash_eq clockId k k' l.id roots s.results none hnd hrnd
    exact ⟨vals, hs, ht, hn ▸ hM⟩
  · obtain ⟨ents, ht, e⟩ := Option.map_eq_some_iff.mp (fromEntryHash_eq clockId k l.id s.results none)
    exact ⟨ents, ht, e ▸ hEH⟩
  · obtain ⟨ents, ht, e⟩ := Option.map_eq_some_iff.mp (fromJSON_eq clockId k l.id s.results none)
    exact ⟨ents, ht, e ▸ hJ⟩
  · intro source hsrc hne
    obtain ⟨L, hL, hS⟩ := hE source hsrc hne
    obtain ⟨r, ht, e⟩ := Option.map_eq_some_iff.mp ((fromEntry_eq clockId k source s.results none).trans hL)
    exact ⟨r, ht, e ▸ hS⟩

end Model.Capstone
