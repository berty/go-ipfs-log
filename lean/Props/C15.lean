import Proofs.Iterator
/-!
# C15 — iteration returns the requested causal range, newest first, and always ends

Theorems about `Model.iterator`, the transcription of `IPFSLog.Iterator` (log.go).  The result type has
three outcomes (`ok out closed`, `errLTE`, `errLT`); the Go function has a fourth possible outcome,
a panic, which the harness records and compares (`SPEC C15 noPanic`).  The traversal-free range
specification `Model.iterSpec` is evaluated against every implementation call by the driver.
-/
namespace Model.C15

/-- on success the output channel is always closed — also when the amount is zero or exceeds what is
    available -/
theorem success_closes (l : Log) (o : IterOpts) (out : List Entry) (c : Bool)
    (h : iterator l o = .ok out c) : c = true := (iterator_ok h).1

theorem amount_zero (l : Log) (o : IterOpts) (h : o.amount = some 0) : iterator l o = .ok [] true := by
  unfold iterator; simp [h]

/-- an unknown inclusive upper bound is reported as an error (the channel is not touched: the only
    outcome that closes it is `ok`) -/
theorem unknown_lte_is_error (l : Log) (o : IterOpts) (cs : List Hash) (ha : o.amount ≠ some 0)
    (hl : o.lte = some cs) (hu : ∃ c ∈ cs, has l.entries c = false) : iterator l o = .errLTE := by
  unfold iterator iterStart
  simp only [ha, if_false, hl, lookupAll_none hu]

/-- an unknown exclusive upper bound likewise -/
theorem unknown_lt_is_error (l : Log) (o : IterOpts) (c : Hash) (ha : o.amount ≠ some 0)
    (hl : o.lte = none) (hlt : o.lt = some [c]) (hu : has l.entries c = false) : iterator l o = .errLT := by
  unfold iterator iterStart
  have : get? l.entries c = none := get?_none_iff.mpr hu
  simp only [ha, if_false, hl, hlt, ltStart, this]

/-- everything that is emitted is an entry of the log -/
theorem emits_entries {U : List Entry} {l : Log} (I : Inv U l) (o : IterOpts) (out : List Entry) (c : Bool)
    (h : iterator l o = .ok out c) : ∀ x ∈ out, x ∈ l.entries := by
  rcases (iterator_ok h).2 with rfl | ⟨start, _, hs, rfl⟩
  · exact fun x hx => absurd hx List.not_mem_nil
  · exact fun x hx => traverseG_subset (fun y hy => iterStart_mem I o start hs y (mem_omFromList hy)) x
      ((iterTrim_infix o _).subset hx)

/-- with an amount at most that many entries are emitted -/
theorem at_most_amount (l : Log) (o : IterOpts) (a : Int) (ha : o.amount = some a) (h0 : 0 ≤ a)
    (out : List Entry) (c : Bool) (h : iterator l o = .ok out c) : out.length ≤ a.toNat := by
  rcases (iterator_ok h).2 with rfl | ⟨start, _, _, rfl⟩
  · exact Nat.zero_le _
  cases hlow : iterEnd o with
  | none =>
    -- no lower bound: the traversal itself is limited
    have hcnt : iterCount o = a := by simp [iterCount, iterAmount, hlow, ha]
    rw [hcnt]
    exact Nat.le_trans (iterTrim_infix o _).length_le (traverse_amount _ _ _ a h0).2
  | some g =>
    -- a lower bound: the part nearest to it is kept
    rw [iterTrim, iterKeepLast_some ha h0 hlow, List.length_drop]
    omega

/-- the default iteration (no bounds, no amount) is the whole linearisation, newest first -/
theorem default_is_reverse_values {U : List Entry} {l : Log} (I : Inv U l) (ho : OrderOk l.sortFn l.entries) :
    iterator l {} = .ok (values l).reverse true := by
  rw [← iterFull_heads I ho]
  rfl

/-! ## the causal range (general roots: `LTE`/`LT` bounds may be referenced and related)

`iterFull l start` is the unbounded traversal without lower bound from the start entries
(`Proofs/Iterator.lean`). -/

/-- the full emission is the causal past of the start entries: strictly descending, duplicate-free,
    and containing exactly the entries reachable from a start entry -/
theorem iter_full_spec {U : List Entry} {l : Log} (I : Inv U l) (ho : OrderOk l.sortFn l.entries)
    (o : IterOpts) (start : List Entry) (hs : iterStart l o = .ok start) :
    (iterFull l start).Pairwise (fun a b => before l.sortFn a b = true) ∧ (iterFull l start).Nodup ∧
    ∀ x, x ∈ iterFull l start ↔ ∃ r ∈ start, Desc l.entries r x := by
  have hin := iterStart_mem I o start hs
  obtain ⟨h1, h2, h3⟩ := traverse_general (ctxG_of_inv I ho) fun r hr => hin r (mem_omFromList hr)
  exact ⟨h1, h2, fun x => (h3 x).trans
    (exists_congr fun r => and_congr_left fun _ => mem_omFromList_iff I.nodup hin)⟩

/-- **Range, soundness — any combination of bounds.**  A successful iteration emits a contiguous
    stretch of the full emission: hence without duplicates, newest first, and only entries of the
    causal past of the upper bound. -/
theorem iter_range_sound {U : List Entry} {l : Log} (I : Inv U l) (ho : OrderOk l.sortFn l.entries)
    (o : IterOpts) (out : List Entry) (c : Bool) (start : List Entry)
    (h : iterator l o = .ok out c) (ha : o.amount ≠ some 0) (hs : iterStart l o = .ok start) :
    (∃ s t, iterFull l start = s ++ out ++ t) ∧ out.Nodup ∧
    out.Pairwise (fun a b => before l.sortFn a b = true) ∧
    ∀ x ∈ out, ∃ r ∈ start, Desc l.entries r x := by
  obtain ⟨hsorted, hnd, hmem⟩ := iter_full_spec I ho o start hs
  have hinfix : out <:+: iterFull l start :=
    iterator_ok_eq h ha hs ▸ (iterTrim_infix o _).trans (traverseG_isPrefix _ _ _ _ _).isInfix
  have hsub := hinfix.sublist
  obtain ⟨s, t, hst⟩ := hinfix
  exact ⟨⟨s, t, hst.symm⟩, hnd.sublist hsub, hsorted.sublist hsub, fun x hx => (hmem x).mp (hsub.subset hx)⟩

/-- **Range, no amount and no lower bound.**  The iteration emits exactly the causal past of the
    upper bound (the given `LTE` entries inclusively, the predecessors of the `LT` bound, the heads
    by default). -/
theorem iter_range_full {U : List Entry} {l : Log} (I : Inv U l) (ho : OrderOk l.sortFn l.entries)
    (o : IterOpts) (out : List Entry) (c : Bool) (start : List Entry)
    (h : iterator l o = .ok out c) (hs : iterStart l o = .ok start)
    (hamt : o.amount = none) (hgte : o.gte = none) (hgt : o.gt = none) :
    out = iterFull l start ∧ ∀ x, x ∈ out ↔ ∃ r ∈ start, Desc l.entries r x := by
  have hout : out = iterFull l start := by
    rw [iterator_upper h (by simp [hamt]) hs hgte hgt, iterAmount, hamt]
    rfl
  rw [hout]
  exact ⟨rfl, (iter_full_spec I ho o start hs).2.2⟩

/-- **Range with an inclusive lower bound `GTE = g`** inside the causal past: the part of the full
    emission before `g`, then `g` itself; with an amount, the last `amount` of these (those nearest
    the lower bound). -/
theorem iter_range_gte {U : List Entry} {l : Log} (I : Inv U l) (ho : OrderOk l.sortFn l.entries)
    (o : IterOpts) (out : List Entry) (c : Bool) (start : List Entry)
    (h : iterator l o = .ok out c) (ha : o.amount ≠ some 0) (hs : iterStart l o = .ok start)
    (g : Hash) (x : Entry) (hgte : o.gte = some g) (hgt : o.gt = none)
    (hx : x ∈ iterFull l start) (hxg : x.hash = g) :
    let w := (iterFull l start).takeWhile (fun e => e.hash != g) ++ [x]
    (o.amount = none → out = w) ∧
    (∀ a, o.amount = some a → 0 ≤ a → out = w.drop (w.length - a.toNat)) := by
  have := iterator_lower_inside I h ha hs (by simp [iterEnd, hgte]) hx hxg
  rwa [iterDropGt_none hgt] at this

/-- **Range with an exclusive lower bound `GT = g`** inside the causal past: the part of the full
    emission strictly before `g`; with an amount, the last `amount` of these. -/
theorem iter_range_gt {U : List Entry} {l : Log} (I : Inv U l) (ho : OrderOk l.sortFn l.entries)
    (o : IterOpts) (out : List Entry) (c : Bool) (start : List Entry)
    (h : iterator l o = .ok out c) (ha : o.amount ≠ some 0) (hs : iterStart l o = .ok start)
    (g : Hash) (x : Entry) (hgte : o.gte = none) (hgt : o.gt = some g)
    (hx : x ∈ iterFull l start) (hxg : x.hash = g) :
    let w := (iterFull l start).takeWhile (fun e => e.hash != g)
    (o.amount = none → out = w) ∧
    (∀ a, o.amount = some a → 0 ≤ a → out = w.drop (w.length - a.toNat)) := by
  have := iterator_lower_inside I h ha hs (by simp [iterEnd, hgte, hgt]) hx hxg
  rwa [iterDropGt_some hgt, List.dropLast_concat] at this

/-- **Range with an amount and no lower bound**: a prefix (the newest part) of the full emission
    of at most `amount` entries; exactly the `amount` newest when no start entry is a strict
    descendant of a start entry.  (When start entries ARE related the code counts the second visit
    of such an entry against `amount` without emitting anything — see `related_bounds_amount`.) -/
theorem iter_range_amount {U : List Entry} {l : Log} (I : Inv U l) (ho : OrderOk l.sortFn l.entries)
    (o : IterOpts) (out : List Entry) (c : Bool) (start : List Entry)
    (h : iterator l o = .ok out c) (ha : o.amount ≠ some 0) (hs : iterStart l o = .ok start)
    (a : Int) (hamt : o.amount = some a) (h0 : 0 ≤ a) (hgte : o.gte = none) (hgt : o.gt = none) :
    (∃ t, iterFull l start = out ++ t) ∧ out.length ≤ a.toNat ∧
    (RootsIndep l.entries (omFromList start) → out = (iterFull l start).take a.toNat) := by
  rw [iterator_upper h ha hs hgte hgt, iterAmount, hamt, Option.getD_some]
  obtain ⟨h1, h2⟩ := traverse_amount l.entries (before l.sortFn) (omFromList start) a h0
  exact ⟨h1, h2, fun hind => traverse_amount_take (ctxG_of_inv I ho)
    (fun r hr => iterStart_mem I o start hs r (mem_omFromList hr))
    (nodup_of_hashes_nodup (omFromList_nodup start)) hind a h0⟩

/-- the default upper bound (the heads) with an amount: the `amount` newest entries of the log -/
theorem iter_heads_amount {U : List Entry} {l : Log} (I : Inv U l) (ho : OrderOk l.sortFn l.entries)
    (o : IterOpts) (out : List Entry) (c : Bool)
    (h : iterator l o = .ok out c) (hlte : o.lte = none) (hlt : o.lt = none)
    (a : Int) (hamt : o.amount = some a) (h0 : 0 < a) (hgte : o.gte = none) (hgt : o.gt = none) :
    out = (values l).reverse.take a.toNat := by
  have hs : iterStart l o = .ok (sortedHeads l) := by simp [iterStart, hlte, hlt]
  have ha : o.amount ≠ some 0 := by simp [hamt]; omega
  have hind : RootsIndep l.entries (omFromList (sortedHeads l)) :=
    rootsIndep_of_unref I (fun r hr => (mem_sortedHeads I.headsNodup).mp (mem_omFromList hr))
  rw [← iterFull_heads I ho]
  exact (iter_range_amount I ho o out c _ h ha hs a hamt (by omega) hgte hgt).2.2 hind

/-! ## non-vacuity: a forked log, related `LTE` bounds -/

def d1 : Entry := { hash := [1], logId := [7], next := [], refs := [], clock := { id := [1], time := 1 } }
def d2 : Entry := { hash := [2], logId := [7], next := [[1]], refs := [], clock := { id := [1], time := 2 } }
def d3 : Entry := { hash := [3], logId := [7], next := [[1]], refs := [], clock := { id := [2], time := 2 } }
def d4 : Entry := { hash := [4], logId := [7], next := [[2], [3]], refs := [], clock := { id := [1], time := 3 } }
def d5 : Entry := { hash := [5], logId := [7], next := [[3]], refs := [], clock := { id := [2], time := 3 } }

/-- a forked log: `d2` and `d3` both follow `d1`; `d4` merges them; `d5` continues the fork after
    `d3`.  Heads `d4`, `d5`. -/
def demoLog : Log :=
  { id := [7], entries := [d1, d2, d3, d4, d5], heads := [d4, d5], nextIdx := [[1], [2], [3]],
    clock := { id := [1], time := 3 }, sortFn := .lww }

theorem demoLog_inv : Inv demoLog.entries demoLog where
  inU := fun _ h => h
  nodup := by decide +kernel
  closed := by decide +kernel
  mono := by decide +kernel
  headsIn := by decide +kernel
  headsNodup := by decide +kernel
  headsSpec := by unfold namedBy; decide +kernel
  headsUnref := by unfold namedBy; decide +kernel
  nextIdx := fun h =>
    ⟨(by decide +kernel : ∀ h ∈ demoLog.nextIdx, ∃ e ∈ demoLog.entries, h ∈ e.next) h,
      fun ⟨e, he, hc⟩ => (by decide +kernel : ∀ e ∈ demoLog.entries, ∀ c ∈ e.next, c ∈ demoLog.nextIdx) e he h hc⟩
  logId := by decide +kernel

theorem demoLog_order : OrderOk demoLog.sortFn demoLog.entries := by
  show ∀ a ∈ demoLog.entries, ∀ b ∈ demoLog.entries, a ≠ b → keyNe a b
  unfold keyNe
  decide +kernel

/-- the bounds `LTE = [d4, d2]` are related: `d2` is a predecessor of `d4`, so these start entries
    are neither unreferenced nor independent -/
example : iterStart demoLog { lte := some [[4], [2]] } = .ok [d4, d2] ∧ Desc demoLog.entries d4 d2 ∧
    ¬ RootsIndep demoLog.entries (omFromList [d4, d2]) := by
  have hd : Desc demoLog.entries d4 d2 :=
    Desc.step (c := [2]) (Desc.refl d4 (by decide)) (by decide) (by decide)
  refine ⟨by decide, hd, ?_⟩
  intro hind
  exact hind d4 (by decide) d4 [2] d2 (Desc.refl d4 (by decide)) (by decide) (by decide) (by decide)

theorem iterFull_demo : iterFull demoLog [d4, d2] = [d4, d3, d2, d1] := by decide +kernel

example : iterFull demoLog [d4, d2] = [d4, d3, d2, d1] := iterFull_demo
example : iterator demoLog { lte := some [[4], [2]] } = .ok [d4, d3, d2, d1] true := by decide +kernel
example : iterator demoLog { lte := some [[4], [2]], gte := some [2] } = .ok [d4, d3, d2] true := by decide +kernel
example : iterator demoLog { lte := some [[4], [2]], gt := some [2] } = .ok [d4, d3] true := by decide +kernel
example : iterator demoLog { lte := some [[4], [2]], gte := some [2], amount := some 2 } = .ok [d3, d2] true := by decide +kernel
example : iterator demoLog { lte := some [[4], [2]], gt := some [2], amount := some 1 } = .ok [d3] true := by decide +kernel
example : iterator demoLog { lte := some [[4], [2]], amount := some 2 } = .ok [d4, d3] true := by decide +kernel
example : iterator demoLog { lt := some [[4]] } = .ok [d3, d2, d1] true := by decide +kernel
example : iterator demoLog { amount := some 2 } = .ok [d5, d4] true := by decide +kernel
example : (values demoLog).reverse = [d5, d4, d3, d2, d1] := by decide +kernel

/-- the theorems apply to the related bounds: the emission is exactly the causal past of `d4`, `d2` -/
example : ∀ x, x ∈ [d4, d3, d2, d1] ↔ ∃ r ∈ [d4, d2], Desc demoLog.entries r x :=
  (iter_range_full demoLog_inv demoLog_order { lte := some [[4], [2]] } [d4, d3, d2, d1] true [d4, d2]
    (by decide +kernel) (by decide) rfl rfl rfl).2

example : [d4, d3, d2] = ([d4, d3, d2, d1].takeWhile (fun e => e.hash != [2]) ++ [d2]) := by
  have h := (iter_range_gte demoLog_inv demoLog_order { lte := some [[4], [2]], gte := some [2] } [d4, d3, d2] true [d4, d2]
    (by decide +kernel) (by decide) (by decide) [2] d2 rfl rfl (iterFull_demo ▸ by decide) rfl).1 rfl
  rw [iterFull_demo] at h
  exact h

example : [d3] = (([d4, d3, d2, d1].takeWhile (fun e => e.hash != [2])).drop
    (([d4, d3, d2, d1].takeWhile (fun e => e.hash != [2])).length - (1 : Int).toNat)) := by
  have h := (iter_range_gt demoLog_inv demoLog_order { lte := some [[4], [2]], gt := some [2], amount := some 1 } [d3] true [d4, d2]
    (by decide +kernel) (by decide) (by decide) [2] d2 rfl rfl (iterFull_demo ▸ by decide) rfl).2 1 rfl (by decide)
  rw [iterFull_demo] at h
  exact h

example : [d5, d4] = (values demoLog).reverse.take (2 : Int).toNat :=
  iter_heads_amount demoLog_inv demoLog_order { amount := some 2 } [d5, d4] true (by decide +kernel) rfl rfl 2 rfl
    (by decide) rfl rfl

/-- **Observation (the code, not the model).**  With related upper bounds and an amount but no lower
    bound, the second visit of a start entry that is also a predecessor is counted against `amount`
    although nothing is emitted: asking for 4 entries of a causal past that has 4 entries yields 3.
    (`iter_range_amount` therefore only promises a prefix of at most `amount` entries in general.) -/
theorem related_bounds_amount :
    iterator demoLog { lte := some [[4], [2]], amount := some 4 } = .ok [d4, d3, d2] true ∧
    iterFull demoLog [d4, d2] = [d4, d3, d2, d1] := ⟨by decide +kernel, iterFull_demo⟩

/-- an inclusive lower bound outside the causal past is ignored: the whole past is emitted -/
theorem iter_range_gte_outside (l : Log) (o : IterOpts) (out : List Entry) (c : Bool) (start : List Entry)
    (h : iterator l o = .ok out c) (hs : iterStart l o = .ok start) (hamt : o.amount = none)
    (g : Hash) (hgte : o.gte = some g) (hgt : o.gt = none)
    (hout : ∀ x ∈ iterFull l start, x.hash ≠ g) : out = iterFull l start := by
  rw [iterator_lower_outside h (by simp [hamt]) hs (by simp [iterEnd, hgte]) hout, iterTrim,
    iterDropGt_none hgt, iterKeepLast_none hamt]

/-- **Observation (the code).**  An exclusive lower bound outside the causal past is not ignored:
    the traversal runs to the end, and then the LAST (oldest) entry of the past is dropped, as if
    it were the bound. -/
theorem iter_range_gt_outside (l : Log) (o : IterOpts) (out : List Entry) (c : Bool) (start : List Entry)
    (h : iterator l o = .ok out c) (hs : iterStart l o = .ok start) (hamt : o.amount = none)
    (g : Hash) (hgte : o.gte = none) (hgt : o.gt = some g)
    (hout : ∀ x ∈ iterFull l start, x.hash ≠ g) : out = (iterFull l start).dropLast := by
  rw [iterator_lower_outside h (by simp [hamt]) hs (by simp [iterEnd, hgte, hgt]) hout, iterTrim,
    iterDropGt_some hgt, iterKeepLast_none hamt]

/-- `d5` is not in the past of `d2`: `GT = d5` drops `d1`, `GTE = d5` does not -/
example : iterator demoLog { lte := some [[2]], gt := some [5] } = .ok [d2] true ∧
    iterator demoLog { lte := some [[2]], gte := some [5] } = .ok [d2, d1] true ∧
    iterFull demoLog [d2] = [d2, d1] := by decide +kernel

/-- **Range with both lower bounds given.**  The code takes `GTE` as the end of the traversal
    (log.go: `endHash` prefers `GTE`) and then, because `GT` is non-nil, drops the last entry, which
    is the `GTE` bound itself: the emission is the part of the full emission strictly before `g`,
    whatever `g'` is; with an amount, the last `amount` of these.  The range is therefore still
    inside "down to the lower bound", with `g` treated as exclusive. -/
theorem iter_range_gte_gt {U : List Entry} {l : Log} (I : Inv U l) (ho : OrderOk l.sortFn l.entries)
    (o : IterOpts) (out : List Entry) (c : Bool) (start : List Entry)
    (h : iterator l o = .ok out c) (ha : o.amount ≠ some 0) (hs : iterStart l o = .ok start)
    (g g' : Hash) (x : Entry) (hgte : o.gte = some g) (hgt : o.gt = some g')
    (hx : x ∈ iterFull l start) (hxg : x.hash = g) :
    let w := (iterFull l start).takeWhile (fun e => e.hash != g)
    (o.amount = none → out = w) ∧
    (∀ a, o.amount = some a → 0 ≤ a → out = w.drop (w.length - a.toNat)) := by
  have := iterator_lower_inside I h ha hs (by simp [iterEnd, hgte]) hx hxg
  rwa [iterDropGt_some hgt, List.dropLast_concat] at this

/-- the premises are met by the demo log: `GTE = d2`, `GT = d1` from `d4` emits `d4, d3` -/
example : iterator demoLog { lte := some [[4]], gte := some [2], gt := some [1] } = .ok [d4, d3] true ∧
    iterFull demoLog [d4] = [d4, d3, d2, d1] := by decide +kernel

end Model.C15
