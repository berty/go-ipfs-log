import Generated.GenJoinTail
import Props.GenCommon
import Props.GenHeads
import Props.GenMisc
import Props.C19Gen
import Proofs.OMap
/-!
# Props.GenJoinTail — what `Join` does once its candidates are admitted (log.go, after the hook
`join.publish`), translated, is the model's `joinClock ∘ joinTrim size ∘ joinMerge`

The region is translated with the log's fields as parameters and results (`Entries`, `heads`, the key set of
`Next`, the clock), `l.values()` as a parameter applied to the current entries and heads, the loop that
marks heads `nil` as a filter (the marked slice only feeds `NewOrderedMapFromEntries`), and the slice
expression of the size cap as an `Option`.  `joinTail_eq`: for every log, every view of the other log and
every size the translated code returns `some` (no slice panic) of exactly the state the model's `join`
publishes.
-/
namespace Model.SlicesGen
open Model Model.Go

/-- the publication loop updates `Entries` and `Next` independently -/
theorem publish_fold (newItems : List Entry) : ∀ (E : List Entry) (N : List Hash),
    newItems.foldl (fun (x : List Entry × List Hash) k =>
      (omSet x.1 k, k.next.foldl (fun lNext next => setInsert lNext next) x.2)) (E, N) =
    (newItems.foldl omSet E, newItems.foldl (fun idx e => e.next.foldl hsSet idx) N) := by
  induction newItems with
  | nil => intro E N; rfl
  | cons k t ih =>
    intro E N
    simp only [List.foldl_cons]
    rw [ih]
    rfl

/-- the hashes the new items name: the code builds a key set, the model a concatenation -/
theorem named_contains (newItems : List Entry) (h : Hash) :
    (newItems.foldl (fun s k => k.next.foldl (fun s n => setInsert s n) s) []).contains h =
      (newItems.foldl (fun acc e => acc ++ e.next) []).contains h := by
  rw [mem_foldl_foldl_insert List.contains (fun (_ : Entry) => setInsert) (·.next) (fun _ => contains_setInsert),
    foldl_append_flatMap]
  rfl

/-- the admitted heads: the code sets them one by one, the model filters -/
theorem admitted_fold (E : List Entry) (otherH : List Entry) : ∀ (acc : List Entry),
    otherH.foldl (fun adm h => if (get? E h.hash).isSome = true then omSet adm ((get? E h.hash).getD default) else adm) acc =
      (otherH.filterMap (fun h => get? E h.hash)).foldl omSet acc := by
  intro acc
  rw [List.foldl_filterMap]
  congr 1
  funext adm h
  cases get? E h.hash <;> rfl

theorem omMerge_omFromList (A B : List Entry) : omMerge A (B.foldl omSet []) = omMerge A B :=
  foldl_insert_foldl (fun E e => has E e.hash) omSet (fun _ _ => rfl) (fun l E e => has_foldl_omSet l E e.hash)
    (A.foldl omSet []) B []

theorem joinTail_eq (l : Log) (otherE otherH : List Entry) (size : Int) :
    Generated.Go.joinTail (fun E H => values { l with entries := E, heads := H })
      l.entries l.nextIdx l.heads l.clock.id l.clock.time (difference otherE otherH l) otherH size =
    some ((joinClock (joinTrim (joinMerge l otherE otherH) size)).clock.id,
          (joinClock (joinTrim (joinMerge l otherE otherH) size)).clock.time,
          (joinClock (joinTrim (joinMerge l otherE otherH) size)).entries,
          (joinClock (joinTrim (joinMerge l otherE otherH) size)).nextIdx,
          (joinClock (joinTrim (joinMerge l otherE otherH) size)).heads) := by
  unfold Generated.Go.joinTail Generated.Go.joinTail_join2 Generated.Go.joinTail_join1
  simp only [gohelper, publish_fold, admitted_fold, findHeads_eq, maxClockTimeForEntries_eq, C19Gen.maxInt_eq]
  -- the three conditions under which a merged head is dropped: as the code tests them = as the model does
  simp only [named_contains, get?_isSome, Bool.not_not, omMerge_omFromList]
  unfold joinMerge
  simp only []
  generalize List.foldl omSet l.entries (difference otherE otherH l) = E' at *
  generalize List.foldl (fun idx (e : Entry) => List.foldl hsSet idx e.next) l.nextIdx (difference otherE otherH l) = N' at *
  generalize omFromList (List.filter _ (findHeads (omMerge l.heads (List.filterMap (fun h => get? E' h.hash) otherH)))) = Hm at *
  -- `values` does not look at the index
  have hv : values { id := l.id, entries := E', heads := Hm, nextIdx := l.nextIdx, clock := l.clock, sortFn := l.sortFn } =
      values { id := l.id, entries := E', heads := Hm, nextIdx := N', clock := l.clock, sortFn := l.sortFn } := rfl
  rw [hv]
  generalize hV : values { id := l.id, entries := E', heads := Hm, nextIdx := N', clock := l.clock, sortFn := l.sortFn } = V
  unfold joinClock joinTrim keepLast
  simp only [hV, decide_eq_true_eq]
  by_cases h1 : size > -1
  · rw [if_pos h1, if_pos h1]
    by_cases h2 : size < (V.length : Int)
    · simp only [if_pos h2, slice?_last V size (by omega) (by omega)]
    · simp only [if_neg h2]
  · rw [if_neg h1, if_neg h1]

end Model.SlicesGen
