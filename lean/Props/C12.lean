import Proofs.Codec
import Proofs.FetchReach
/-!
# C12 — untrusted blocks and manifests cannot crash the process

The byte-level decoders (refmt CBOR, `encoding/json`, protobuf, `cid.Cast`) are library code and are
exercised on malformed inputs by the `codec` stream under `recover`.  What is proved here is the part
the repository owns: from *any* value of the serialisable structs (every field arbitrary, every
pointer possibly nil, every string possibly not hex) the conversion to a plain entry returns a value
or an error — never the outcome `panic` — and an entry it returns is safe to use.
-/
namespace Model.C12
open Model Model.Cbor Model.Codec

theorem toPlainIdentity_total (i : JIdentity) : toPlainIdentity i ≠ .panic := Model.Codec.toPlainIdentity_total i

theorem toPlainSignatures_total (s : JSig) : toPlainSig s ≠ .panic := toPlainSig_total s

theorem toPlainClock_total (c : JClock) : toPlainClock c ≠ .panic := Model.Codec.toPlainClock_total c

/-- `Entry.ToPlain` never panics, whatever the decoded struct contains -/
theorem toPlain_total (j : JEntry) : toPlainEntry j ≠ .panic := by
  fun_cases toPlainEntry j
  all_goals first | exact absurd ‹_› (toPlainClock_total _) | exact absurd ‹_› (toPlainIdentityOpt_total _) | nofun

/-- `EntryV0.ToPlain` (legacy codec), for any `cid.Parse` -/
theorem toPlainV0_total (parseCid : Bytes → Option Bytes) (j : JEntryV0) : toPlainEntryV0 parseCid j ≠ .panic := by
  unfold toPlainEntryV0
  simp only
  repeat' split
  all_goals first | exact absurd ‹_› (toPlainClock_total _) | nofun

/-- `DecodeRawEntry` after the library decoder: link decryption (any key, any crypto behaviour) and
    `ToPlain` never panic -/
theorem decode_total (C : Crypto) (k : Option Bytes) (hash : Bytes) (j : JEntry) : decodeJEntry C k hash j ≠ .panic :=
  Outcome.bind_ne_panic (decryptLinks_total C k j) fun j' _ =>
    Outcome.bind_ne_panic (toPlain_total j') fun _ _ => nofun

theorem decodeRaw_total (C : Crypto) (k : Option Bytes) (hash raw : Bytes) : decodeRawEntry C k hash raw ≠ .panic := by
  unfold decodeRawEntry
  split
  · nofun
  · exact decode_total C k hash _

/-- the nil check on `Clock` is what makes `toPlain_total` true: the same function without it
    panics on a well-formed block that has no clock -/
theorem without_clock_check_panics : toPlainEntryNoCheck {} = .panic := by decide

/-- a decoded entry has a clock, and an identity with signatures -/
theorem decoded_has_clock (C : Crypto) (k : Option Bytes) (hash : Bytes) (j : JEntry) (e : PEntry)
    (h : decodeJEntry C k hash j = .ok e) : safeEntry e := by
  obtain ⟨j', -, h⟩ := Outcome.bind_eq_ok h
  obtain ⟨e', hp, h⟩ := Outcome.bind_eq_ok h
  cases h
  exact toPlainEntry_safe j' e' hp

/-- every accessor, comparison, `Equals`, `IsParent`, `ToHashable`, `Normalize`, `ToJsonableEntry`,
    `Write`, `PreSign` and `Verify` returns a value or an error on decoded entries -/
theorem decoded_safe (C : Crypto) (cidStr : Bytes → Bytes) (k k2 : Option Bytes) (sigOk : Hashable → Bytes → Bytes → Bool)
    (pre : Bool) (h1 h2 : Bytes) (j1 j2 : JEntry) (a b : PEntry)
    (ha : decodeJEntry C k h1 j1 = .ok a) (hb : decodeJEntry C k h2 j2 = .ok b) :
    a.clock.isSome = true ∧
    opClockTime a ≠ .panic ∧ opCompare a b ≠ .panic ∧ opEquals a b ≠ .panic ∧ opIsParent a b ≠ .panic ∧
    toHashable a ≠ .panic ∧ normalize pre a ≠ .panic ∧ jsonOf cidStr a ≠ .panic ∧ writeEntry cidStr a ≠ .panic ∧
    preSign C cidStr k2 a ≠ .panic ∧ opVerify C cidStr k2 sigOk a ≠ .panic := by
  have ha := decoded_has_clock C k h1 j1 a ha
  have hb := decoded_has_clock C k h2 j2 b hb
  have hj := jsonOf_safe cidStr a ha
  obtain ⟨hp1, hp2⟩ := preSign_safe C cidStr k2 a ha.1
  obtain ⟨ca, hca⟩ := Option.isSome_iff_exists.mp ha.1
  obtain ⟨cb, hcb⟩ := Option.isSome_iff_exists.mp hb.1
  refine ⟨ha.1, by simp [opClockTime, hca], by simp [opCompare, hca, hcb], nofun, nofun,
    toHashable_ne_panic ha.1, by simp [normalize, hca], hj, ?_, hp1, ?_⟩
  · refine Outcome.bind_ne_panic hj fun any _ => ?_
    repeat' split
    all_goals nofun
  · exact Outcome.ite_ne_panic nofun <| Outcome.ite_ne_panic nofun <|
      Outcome.bind_ne_panic hp1 fun p hp => Outcome.bind_ne_panic (toHashable_ne_panic (hp2 p hp)) fun _ _ =>
        Outcome.ite_ne_panic nofun nofun

/-- a stored log with undecodable blocks: every loaded entry comes from a block that decoded
    successfully (the others are skipped), whatever the blocks contain; nothing in the computation can
    panic since `decodeRawEntry` cannot (`decodeRaw_total`) -/
theorem load_skips_undecodable (C : Crypto) (k : Option Bytes) (blocks : List (Bytes × Bytes)) (roots : List Bytes) :
    ∀ x ∈ loadAll C k blocks roots,
      ∃ h raw e, (h, raw) ∈ blocks ∧ decodeRawEntry C k h raw = .ok e ∧ x = coreEntry e := by
  intro x hx
  -- what the loop returns was looked up in the store (`reachLoopX_spec`)
  unfold loadAll reach at hx
  rw [reachLoop_eq, (reachLoopX_spec _ _ roots).1 x] at hx
  obtain ⟨_, _, hg⟩ := hx
  obtain ⟨⟨h, raw⟩, hm, hs⟩ := List.mem_filterMap.mp (get?_mem hg).1
  refine ⟨h, raw, ?_⟩
  cases hd : decodeRawEntry C k h raw with
  | ok e =>
    simp only [hd, Option.some.injEq] at hs
    exact ⟨e, hm, rfl, hs.symm⟩
  | err _ => simp [hd] at hs
  | panic => simp [hd] at hs

/-! ### the statements are not vacuous -/

/-- a block without clock is an error, not a crash -/
example : toPlainEntry {} = .err .clock := by decide +kernel
/-- an identity without signatures is an error -/
example : toPlainIdentity {} = .err .identitySig := by decide +kernel
/-- some entry does decode -/
example : ∃ e, decodeJEntry ⟨fun _ _ m => m, fun _ _ c => some c, fun _ => [0]⟩ none [9]
    { key := [48, 52], clock := some { id := [48, 52], time := 1 } } = .ok e := ⟨_, rfl⟩

end Model.C12
