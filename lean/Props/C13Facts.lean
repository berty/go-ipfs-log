import Generated.Facts
import Model.Conc
/-!
# C13 / C14 — the lock discipline of the Go code, from the regenerated facts

`Generated/Facts.lean` is rewritten from the Go AST (`harness/cmd/extract`) before every check.  The
obligations below are what ties the well-bracketedness hypothesis (`Model.Conc.wb`, `Init`) of the
theorems in `Props/C13.lean`, `Props/C14.lean` to the code as it is:

* `lockFacts_guarded` — every access to a mutable field of a log is made holding that log's lock;
  writes (assignments and in-place mutations `Set`, …) hold the write lock.
* `no_acquire_while_holding` — no function calls a locking method of ANY log, or takes a lock, while
  it holds a log lock (C14: no lock-order cycles, hence `cross_join_deadlock_free`).
* `lockFacts_cover` — the table is not empty by accident: the functions the model has programs for
  all occur in it.

A mutation that drops a lock or calls a locked accessor under the lock flips one of them: `decide` fails, and
the `#eval`s below print the offending rows.  (`+kernel`: the kernel alone evaluates the string comparisons; the
elaborator's own evaluation of the same instance is skipped, it costs more than the kernel's and adds nothing.)
-/
namespace Model.C13

/-- reads need the read or the write lock, writes the write lock -/
def guarded (a : String × String × String × String) : Bool :=
  if a.2.2.1 == "write" then a.2.2.2 == "W"
  else a.2.2.1 == "read" && (a.2.2.2 == "R" || a.2.2.2 == "W")

/-- the offending rows (printed by the build; `[]` when the discipline holds) -/
def unguardedRows : List (String × String × String × String) := Generated.lockFacts.filter (fun a => !guarded a)

#eval unguardedRows
#eval Generated.acquireWhileHolding

theorem lockFacts_guarded : Generated.lockFacts.all guarded = true := by decide +kernel

theorem no_acquire_while_holding : Generated.acquireWhileHolding = [] := rfl

/-- the functions that have a program in `Model.Conc` -/
def modelled : List String :=
  ["Append", "Join", "SetIdentity", "Values", "Heads", "RawHeads", "Get", "Has", "Len", "ToSnapshot",
   "ToJSONLog", "GetEntries", "Iterator", "ToMultihash"]

/-- every modelled function takes a log lock (itself or through a call) -/
theorem lockingMethods_cover : modelled.all (fun f => Generated.lockingMethods.contains f) = true := by decide +kernel

/-- and the mutating ones are seen writing under the lock -/
theorem lockFacts_cover :
    ["Append", "Join", "SetIdentity"].all (fun f =>
      Generated.lockFacts.any (fun a => a.1 == f && a.2.2.1 == "write" && a.2.2.2 == "W")) = true ∧
    ["Entries", "heads", "Next", "Clock", "Identity"].all (fun f => Generated.mutableFields.contains f) = true := by
  decide +kernel

/-- the predicate is not vacuous: an unlocked read and a write under the read lock are rejected -/
example : guarded ("toMultihash", "heads", "read", "none") = false := by decide +kernel
example : guarded ("Join", "heads", "write", "R") = false := by decide +kernel
example : guarded ("Len", "Entries", "read", "R") = true := by decide +kernel

/-! ## the programs of `Model.Conc` are the lock structure of the code

`Generated.lockShape` is, for every API method, the sequence of lock operations, hook points, channel
sends and closes on the function's main path (the path without early return), with calls to other
locking methods inlined (`harness/cmd/extract/lockshape.go`).  The obligations below are **derived**:
the right-hand sides are computed from the model's programs, not written down.  A change that adds a
second bracket (a torn composite read), reads state through a locking accessor before taking the write
lock, keeps the lock across the channel sends, or moves a read of the other log under the own lock
changes the left-hand side. -/

open Model.Conc in
def hookStr : Hook → String
  | .opStart => "op.start"
  | .appendEnter => "append.enter"
  | .appendLocked => "append.locked"
  | .appendPublish => "append.publish"
  | .joinEnter => "join.enter"
  | .joinHeadsRead => "join.heads-read"
  | .joinEntriesRead => "join.entries-read"
  | .joinLocked => "join.locked"
  | .joinPublish => "join.publish"
  | .iteratorLocked => "iterator.locked"

open Model.Conc in
/-- the event of an instruction as the extractor names it; `self` is the receiver's log.  Data accesses
    and the harness' own start point have no counterpart in the shape. -/
def evOf (self : Lid) : Instr → Option String
  | .rlock l => some (if l = self then "RLock(l)" else "RLock(o)")
  | .runlock l => some (if l = self then "RUnlock(l)" else "RUnlock(o)")
  | .lock l => some (if l = self then "Lock(l)" else "Lock(o)")
  | .unlock l => some (if l = self then "Unlock(l)" else "Unlock(o)")
  | .hook .opStart => none
  | .hook p => some ("hook:" ++ hookStr p)
  | _ => none

open Model.Conc in
def progShape (self : Lid) (p : List Instr) : List String := p.filterMap (evOf self)

def codeShape (m : String) : List String :=
  match Generated.lockShape.find? (·.1 == m) with
  | some p => p.2
  | none => ["<no such method>"]

/-- the same without the channel events (the model's `Iterator` ends when the result is collected) -/
def lockOnly (l : List String) : List String := l.filter (fun e => e != "send" && e != "close")

open Model.Conc in
theorem shape_append : codeShape "Append" = progShape 0 (appendProg 0 1 [] 0) := by decide +kernel
open Model.Conc in
theorem shape_join : codeShape "Join" = progShape 0 (joinProg 0 1 [] (-1)) := by decide +kernel
open Model.Conc in
theorem shape_setIdentity : codeShape "SetIdentity" = progShape 0 (setIdentityProg 0 []) := by decide +kernel
open Model.Conc in
/-- one read bracket each: no composite read is torn -/
theorem shape_readers :
    ["Values", "Get", "Has", "Len", "GetEntries", "ToSnapshot"].all (fun m => codeShape m == progShape 0 (readerProg 0)) = true ∧
    ["Heads", "RawHeads", "ToJSONLog"].all (fun m => codeShape m == progShape 0 (headsProg 0)) = true := by decide +kernel
open Model.Conc in
theorem shape_toMultihash : codeShape "ToMultihash" = progShape 0 (toMultihashProg 0) := by decide +kernel
open Model.Conc in
theorem shape_iterator : lockOnly (codeShape "Iterator") = progShape 0 (iteratorProg 0) := by decide +kernel
/-- `Iterator` sends and closes only after it has released the lock, and takes no lock afterwards -/
theorem iterator_sends_after_unlock :
    ((codeShape "Iterator").takeWhile (· != "RUnlock(l)")).all (fun e => e != "send" && e != "close") = true ∧
    ((codeShape "Iterator").dropWhile (· != "RUnlock(l)")).drop 1 = ["send", "close"] := by decide +kernel

end Model.C13
