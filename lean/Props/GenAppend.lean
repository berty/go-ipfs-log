import Generated.GenAppend
import Props.GenCommon
import Proofs.OMap
import Props.GenTraverse
import Props.GenMisc
import Props.GenIterator
/-!
# Props.GenAppend — the plan of `Append` (log.go, from the lock to the creation of the entry) and `getEveryPow2`,
translated, are the model's `appendPlan` / `everyPow2`; its tail (after the creation) is the model's `appendApply`

The region computes the predecessors (`next`), the references (`refs`) and the new clock.  A three-clause `for`
loop is the initialisation followed by a `for cond` loop whose every iteration ends with the post statement; a
`break` in a `range` loop is a flag carried by the fold; `all.At(uint(i))` is `none` for a negative `i`.
`appendPlan_eq`: with the model's fuel the translated region returns the lists that `Entry.Copy` then
de-duplicates into the model's `appendPlan` (`appendPlan_model`), and the model's clock.  Hypotheses: no entry has
the empty hash; the traversal result is not longer than the log plus its heads (true of every reachable log:
its elements are distinct entries of the log — C03).  `appendTail_eq`: the translated tail returns the entries, index
and heads of `appendApply`; the code fills the index from the plan's `next`, the model from the entry's de-duplicated
copy of it, which is the same (`foldl_hsSet_foldl`).
-/
namespace Model.SlicesGen
open Model Model.Go

/-- `xs.At(uint(j))` behind the test `j < 0`: the test is idle when only an empty `xs` meets a negative index -/
theorem at?_eq {α : Type} (xs : List α) (j : Int) (h : j < 0 → xs = []) :
    (if j < 0 then none else xs[j.toNat]?) = xs[j.toNat]? := by
  by_cases hj : j < 0
  · rw [if_pos hj, h hj]; rfl
  · rw [if_neg hj]

/-- `getEveryPow2`, translated: the same recursion as the model's `everyPow2` (the code accumulates, the model conses) -/
theorem pow2_loop (all : List Entry) (md : Int) : ∀ (fuel : Nat) (acc : List Entry) (i : Int), 1 ≤ i →
    (Generated.Go.getEveryPow2_loop1 all md fuel (acc, i)).1 = acc ++ everyPow2 all md fuel i := by
  intro fuel
  induction fuel with
  | zero => intro acc i _; exact (List.append_nil acc).symm
  | succ fuel ih =>
    intro acc i hi
    unfold Generated.Go.getEveryPow2_loop1 everyPow2
    simp only [decide_eq_true_eq, C19Gen.minInt_eq]
    by_cases hc : i ≤ md
    · -- the index is negative only for an empty map
      rw [if_pos hc, if_pos hc, at?_eq all _ (fun h => List.eq_nil_of_length_eq_zero (by omega))]
      cases all[(min ((all.length : Int) - 1) (i - 1)).toNat]? with
      -- (the code may test `e == nil || !e.Defined()` and continue, or `e != nil && e.Defined()` and append)
      | none =>
        simp only [Option.isNone_none, Option.isSome_none, Bool.not_true, Bool.or_false, Bool.and_true, Bool.false_eq_true,
          if_true, if_false]
        exact ih acc (i * 2) (by omega)
      | some e =>
        simp only [Option.isNone_some, Option.isSome_some, Bool.not_true, Bool.or_false, Bool.and_true, Bool.false_eq_true,
          if_true, if_false, Option.getD_some]
        rw [ih (acc ++ [e]) (i * 2) (by omega), List.append_assoc]
        rfl
    · rw [if_neg hc, if_neg hc, List.append_nil]

theorem getEveryPow2_eq (fuel : Nat) (all : List Entry) (md : Int) :
    Generated.Go.getEveryPow2 fuel all md = everyPow2 all md fuel 1 := by
  unfold Generated.Go.getEveryPow2
  simp only
  rw [pow2_loop all md fuel [] 1 (by omega)]
  rfl

theorem everyPow2_fuel (all : List Entry) (md : Int) : ∀ (n : Nat) (f1 f2 : Nat) (i : Int), 1 ≤ i →
    (md + 1 - i).toNat < n → n ≤ f1 → n ≤ f2 → everyPow2 all md f1 i = everyPow2 all md f2 i := by
  intro n
  induction n with
  | zero => intro f1 f2 i _ h; exact absurd h (Nat.not_lt_zero _)
  | succ n ih =>
    intro f1 f2 i hi hm h1 h2
    cases f1 with
    | zero => exact absurd h1 (Nat.not_succ_le_zero n)
    | succ f1 =>
      cases f2 with
      | zero => exact absurd h2 (Nat.not_succ_le_zero n)
      | succ f2 =>
        unfold everyPow2
        by_cases hc : i ≤ md
        · -- `i ≥ 1`, so doubling it strictly lowers `md + 1 - i`
          rw [if_pos hc, if_pos hc, ih f1 f2 (i * 2) (by omega) (by omega) (Nat.le_of_succ_le_succ h1) (Nat.le_of_succ_le_succ h2)]
        · rw [if_neg hc, if_neg hc]

theorem last_index (all : List Entry) :
    (if (all.length : Int) - 1 < 0 then none else all[((all.length : Int) - 1).toNat]?) = all.getLast? := by
  rw [at?_eq all _ (fun h => List.eq_nil_of_length_eq_zero (by omega)), List.getLast?_eq_getElem?]
  exact congrArg (all[·]?) (Int.toNat_sub all.length 1)

/-- the predecessors and references `Append` computes before `Entry.Copy` de-duplicates them -/
def planNextRaw (l : Log) : List Hash := ((sortedHeads l).map (·.hash)).reverse

def planRefsRaw (l : Log) (pcOpt : Int) : List Hash :=
  let heads := sortedHeads l
  let pc : Int := if pcOpt ≠ 0 then pcOpt else 1
  let all := traverseG l.entries (before l.sortFn) heads (max pc heads.length) none
  let refs0 := everyPow2 all (min pc all.length) (all.length + 2) 1
  let refs1 := if (all.length : Int) < pc then
      (match all.getLast? with | some r => refs0 ++ [r] | none => refs0) else refs0
  (refs1.map (·.hash)).filter (fun r => !(planNextRaw l).contains r)

theorem appendPlan_model (l : Log) (pcOpt : Int) :
    appendPlan l pcOpt = { next := dedupHashes (planNextRaw l) [], refs := dedupHashes (planRefsRaw l pcOpt) [],
                           clock := { id := l.clock.id, time := max l.clock.time (maxTime (sortedHeads l) 0) + 1 } } := rfl

theorem appendPlan_eq (l : Log) (pcOpt : Int)
    (hE : ∀ e ∈ l.entries, e.hash ≠ []) (hH : ∀ e ∈ l.heads, e.hash ≠ [])
    (hlen : (traverseG l.entries (before l.sortFn) (sortedHeads l)
              (max (if pcOpt ≠ 0 then pcOpt else 1) (sortedHeads l).length) none).length + 1 ≤
            traverseFuel l.entries (sortedHeads l)) :
    Generated.Go.appendPlan (traverseFuel l.entries (sortedHeads l)) l.entries (before l.sortFn) l.heads
        l.clock.id l.clock.time pcOpt =
      some (planNextRaw l, planRefsRaw l pcOpt, l.clock.id, max l.clock.time (maxTime (sortedHeads l) 0) + 1) := by
  unfold Generated.Go.appendPlan planRefsRaw planNextRaw
  simp only [sortedHeads_eq, bne_iff_ne, decide_eq_true_eq, maxClockTimeForEntries_eq, C19Gen.maxInt_eq, C19Gen.minInt_eq, getEveryPow2_eq,
    last_index]
  generalize (if pcOpt ≠ 0 then pcOpt else (1 : Int)) = pc at *
  rw [show Generated.Go.traverse _ _ _ _ _ [] = _ from traverse_eq l.entries (before l.sortFn) (sortedHeads l) _ none
    (fun _ => ⟨hE, fun e he => hH e (mem_goSort.mp (mem_omFromList he))⟩)]
  simp only
  generalize traverseG l.entries (before l.sortFn) (sortedHeads l) (max pc ((sortedHeads l).length : Int)) none = all at *
  rw [everyPow2_fuel all _ (all.length + 1) _ (all.length + 2) 1 (by omega) (by omega) hlen (by omega)]
  -- (the search among the predecessors may be the loop with `break` or an extracted helper with an early return)
  simp only [gohelper, search_true, break_fold, List.any_beq, List.foldl_flip_cons_eq_append, List.singleton_append, foldl_ite_snoc,
    List.filter_map, Function.comp_def, List.append_nil, List.nil_append]
  cases all.getLast? <;> rfl

theorem foldl_hsSet_foldl (s : List Hash) (l : List Hash) : ∀ (a : List Hash),
    (l.foldl hsSet a).foldl hsSet s = l.foldl hsSet (a.foldl hsSet s) :=
  foldl_insert_foldl List.contains hsSet (fun _ _ => rfl) (mem_foldl_insert List.contains setInsert contains_setInsert) s l

/-- `he`: the entry `CreateEntryWithIO` returns has the de-duplicated `next` as its predecessors (`Entry.Copy`, `uniqueCIDs_eq`) -/
theorem appendTail_eq (l : Log) (e : Entry) (next : List Hash) (he : e.next = dedupHashes next []) :
    Generated.Go.appendTail l.entries l.nextIdx l.heads e next =
      some ((appendApply l e).entries, (appendApply l e).nextIdx, (appendApply l e).heads) := by
  unfold Generated.Go.appendTail appendApply
  simp only [setInsert_eq_hsSet', he, dedupHashes_eq_foldl, foldl_hsSet_foldl]
  rfl

end Model.SlicesGen
