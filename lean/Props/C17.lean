import Proofs.Store
import Proofs.RefsClosed
import Props.C09
/-!
# C17 — the block store is causally closed at every instant (crash safety)

`s.uni` is the write sequence of entry blocks of a reachable system (any history of appends, merges,
identity changes on any number of replicas sharing the store).  A crash point between two block
writes is a prefix `s.uni.take n`.
-/
namespace Model.C17

/-- after any prefix of the block writes, every entry block in the store has the blocks of all its
    predecessors and references in the store too -/
theorem store_closed_at_every_prefix {s : Sys} (hr : Reachable s) (n : Nat) :
    ∀ e ∈ s.uni.take n, ∀ h ∈ e.next ++ e.refs, h ∈ hashes (s.uni.take n) :=
  reachable_induction (P := fun s => PrefixClosed s.uni) prefixClosed_nil (fun I hc hs => prefixClosed_step I hc hs) hr n

/-- every entry a replica holds in memory has been written to the store (writes precede publication) -/
theorem memory_subset_store {s : Sys} (hr : Reachable s) {r : Nat} {l : Log} (hl : s.logs r = some l) :
    ∀ e ∈ l.entries, e ∈ s.uni := ((reachable_inv hr).inv r l hl).inU

/-- what a manifest (or a returned head hash) names is in the store, with all of its history -/
theorem published_heads_in_store {s : Sys} (hr : Reachable s) {r : Nat} {l : Log} (hl : s.logs r = some l) :
    (∀ h ∈ jsonHeads l, h ∈ hashes s.uni) ∧
    (∀ e ∈ l.entries, ∀ c ∈ e.next, ∃ p ∈ s.uni, p.hash = c) := by
  have I := (reachable_inv hr).inv r l hl
  refine ⟨fun h hh => hashes_subset (fun x hx => I.inU x (I.headsIn x hx)) (mem_jsonHeads.mp hh), ?_⟩
  exact fun e he c hc => (I.pred he hc).imp fun p hp => ⟨I.inU p hp.1, hp.2.1⟩

/-- the store only grows: a later store contains every earlier one as a prefix -/
theorem store_only_grows {s s' : Sys} {op : Op} (hstep : s.step op = some s') : ∃ t, s'.uni = s.uni ++ t :=
  step_uni hstep

/-- the decidable predicate evaluated on the implementation's write log implies the property -/
theorem checked_predicate_sound (U : List Entry) (h : prefixClosedB U = true) :
    ∀ n, ∀ e ∈ U.take n, ∀ c ∈ e.next ++ e.refs, c ∈ hashes (U.take n) := prefixClosedB_sound U h

theorem run_store_grows (ops : List Op) {s s' : Sys} (h : s.run ops = some s') : ∃ t, s'.uni = s.uni ++ t := by
  refine run_induction (P := fun x => ∃ t, x.uni = s.uni ++ t) ?_ ops ⟨[], (List.append_nil _).symm⟩ h
  rintro s1 s2 op ⟨t1, h1⟩ hs
  obtain ⟨t2, h2⟩ := step_uni hs
  exact ⟨t1 ++ t2, by rw [h2, h1, List.append_assoc]⟩

/-- the replica as the block store sees it: the hypothesis of the fetcher theorems of C09, discharged
    for every replica of every reachable system and every store that holds the replica's universe -/
theorem source_in_store {s : Sys} (hr : Reachable s) {r : Nat} {l : Log} (hl : s.logs r = some l)
    (cfg : FCfg) (hstore : ∀ e ∈ s.uni, get? cfg.store e.hash = some e) (hdef : [] ∉ hashes s.uni) :
    C09.SourceInStore cfg l.entries (jsonHeads l) := by
  have I := (reachable_inv hr).inv r l hl
  have R := reachable_refsIn hr hl
  have hstored : ∀ e ∈ l.entries, get? cfg.store e.hash = some e := fun e he => hstore e (I.inU e he)
  refine ⟨hstored, ?_, ?_, ?_, ?_⟩
  · exact fun e he hh => hdef (hh ▸ mem_hashes.mpr ⟨e, I.inU e he, rfl⟩)
  · exact fun h hh => mem_hashes.mp (hashes_subset I.headsIn (mem_jsonHeads.mp hh))
  · intro e he c hc
    rcases List.mem_append.mp hc with h1 | h1
    · exact has_iff.mp (I.closed e he c h1)
    · exact List.mem_map.mp (R e he c h1)
  · intro e he
    obtain ⟨hd, hhd, hdesc⟩ := every_entry_below_some_head I e he
    clear he
    induction hdesc with
    | refl ha => exact Anc.root (mem_jsonHeads.mpr (mem_hashes.mpr ⟨_, hhd, rfl⟩))
    | step d hc hg ih => exact (get?_mem hg).2 ▸ Anc.next ih (hstored _ d.mem_right) hc

/-- **C17, end to end in the model.**  `l` is the state of a replica at some point of a history (`s`);
    the history continues arbitrarily (`ops`, reaching `s'`), and the process may crash between any two
    later block writes (the store is the prefix `s'.uni.take n`, `n ≥ |s.uni|` because `Append` writes
    before it publishes).  Then what the published manifest of `l` names — its id and head hashes —
    loads, by *any* accepted unbounded execution of the fetcher and each of the four loaders, to
    exactly `l`: same id, same entries, same heads, same `Values()` under a strict total ordering. -/
theorem published_state_loads {s s' : Sys} (hr : Reachable s) (ops : List Op) (hrun : s.run ops = some s')
    {r : Nat} {l : Log} (hl : s.logs r = some l) (n : Nat) (hn : s.uni.length ≤ n)
    (hdef : [] ∉ hashes s'.uni)
    (cfg : FCfg) (hstore : cfg.store = s'.uni.take n) (hlen : cfg.length < 0) (hex : ∀ h, cfg.excluded h = false)
    (evs : List FEvent) (st : FState)
    (h : accepted cfg (jsonHeads l) evs = some st) (hq : quiescent st) (hc : st.cancelled = false)
    (clockId : Bytes) (k k' : SortKind) :
    C09.SameLog s.uni l (loadManifest clockId k k' l.id (jsonHeads l) st.results (-1)) ∧
    C09.SameLog s.uni l (loadEntryHash clockId k l.id st.results (-1)) ∧
    C09.SameLog s.uni l (loadJSON clockId k l.id st.results (-1)) ∧
    (∀ source, (∀ e ∈ source, e ∈ l.entries) → source ≠ [] →
      ∃ L, loadEntries clockId k source st.results (-1) = some L ∧ C09.SameLog s.uni l L) := by
  have I := reachable_inv hr
  have I' := run_induction (fun I h => sysInv_step I h) ops I hrun
  obtain ⟨t, ht⟩ := run_store_grows ops hrun
  have hsub : ∀ e ∈ s.uni, e ∈ s'.uni.take n := by
    intro e he
    rw [ht, List.take_append]
    exact List.mem_append_left _ (by rw [List.take_of_length_le hn]; exact he)
  have hnd : (hashes (s'.uni.take n)).Nodup := ((List.take_sublist n s'.uni).map _).nodup I'.uni
  have hget : ∀ e ∈ s.uni, get? cfg.store e.hash = some e := fun e he =>
    hstore ▸ get?_eq_of_mem hnd (hsub e he)
  have hdef' : [] ∉ hashes s.uni := fun hm =>
    hdef (hashes_subset (fun y hy => ht ▸ List.mem_append_left _ hy) hm)
  exact C09.rebuilt_equals_original I.uni (I.inv r l hl) cfg (jsonHeads l) evs st (fun _ => mem_jsonHeads) hlen hex
    (source_in_store hr hl cfg hget hdef') h hq hc clockId k k'

/-! non-vacuity: a forked and merged two-replica history is reachable, its replicas exist, no block has
the undefined hash, and the history continues (the hypotheses of `published_state_loads`; an accepted
fetcher execution on such a store is exhibited in `Props/C09.lean`) -/
def demoOps : List Op :=
  [.newLog [88] [4, 1] .lww, .newLog [88] [4, 2] .lww, .append 0 0 [1] 0, .append 1 0 [2] 0, .append 0 2 [3] 0,
   .join 0 1, .join 1 0, .append 1 2 [4] 0]
def demoLater : List Op := [.append 0 0 [5] 0, .join 0 1]

def demoCheck : Bool :=
  match Sys.init.run demoOps with
  | some s =>
    (match s.logs 1, s.run demoLater with
     | some l, some s' => l.entries.length == 4 && !(hashes s'.uni).contains [] && s.uni.length ≤ 4 && s'.uni.length == 5
     | _, _ => false)
  | none => false

example : demoCheck = true := by decide +kernel

end Model.C17
