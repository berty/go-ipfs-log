import Generated.GenJoin
import Props.GenCommon
/-!
# Props.GenJoin — the candidates of `Join` (log.go), translated: `difference` is the model's `difference`, and their
verification fails exactly when the model's `join` does

The worklist loop of `difference` is a recursion on fuel; as in the traversal the visited set is compared up to
membership (`SameSet`).  The inner loop and the step around it are proved for ANY step function that meets the
pointwise specification (`diffInner_sim`, `diff_push`), so that the boolean shape the code gives its tests does not
matter; `diffLoop_eq` then decides every atom a test may mention.
-/
namespace Model.SlicesGen
open Model Model.Go Model.Codec

theorem diffInner_sim (EB : List Entry) (f : List Hash × List Hash → Hash → List Hash × List Hash)
    (hf : ∀ x c, f x c = if (!x.2.contains c && !has EB c) = true then (x.1 ++ [c], setInsert x.2 c) else x) :
    ∀ (cs : List Hash) (stack : List Hash) (trav traversed : List Hash),
    SameSet traversed trav →
    (cs.foldl f (stack, traversed)).1 = (cs.foldl (diffPush EB) (stack, trav)).1 ∧
      SameSet (cs.foldl f (stack, traversed)).2 (cs.foldl (diffPush EB) (stack, trav)).2 := by
  intro cs stack trav traversed hs
  refine foldl_sim (fun x y => x.1 = y.1 ∧ SameSet x.2 y.2) f (diffPush EB) ?_ cs (stack, traversed) (stack, trav) ⟨rfl, hs⟩
  rintro ⟨st, tr⟩ ⟨_, tr'⟩ c ⟨rfl, h⟩
  rw [hf, diffPush, h c]
  split
  · exact ⟨rfl, sameSet_insert h c⟩
  · exact ⟨rfl, h⟩

/-- the `has EB h = false`, same-id case of `diffLoop_eq`: after pushing the predecessors with any conforming inner
    step `f`, the caller's induction hypothesis `ih` applies -/
theorem diff_push (EA HA EB : List Entry) (idB : Bytes) (fuel : Nat)
    (ih : ∀ (stack trav traversed : List Hash) (res : List Entry), SameSet traversed trav →
      (Generated.Go.logDifference_loop1 EA HA EB idB fuel (stack, traversed, res)).2.2 =
        diffLoop EA EB idB fuel stack trav res)
    (f : List Hash × List Hash → Hash → List Hash × List Hash)
    (hf : ∀ x c, f x c = if (!x.2.contains c && !has EB c) = true then (x.1 ++ [c], setInsert x.2 c) else x)
    (rest trav' traversed' : List Hash) (res : List Entry) (hs' : SameSet traversed' trav') (l : List Hash) :
    (Generated.Go.logDifference_loop1 EA HA EB idB fuel
        ((l.foldl f (rest, traversed')).1, (l.foldl f (rest, traversed')).2, res)).2.2 =
      diffLoop EA EB idB fuel (l.foldl (diffPush EB) (rest, trav')).1 (l.foldl (diffPush EB) (rest, trav')).2 res := by
  obtain ⟨h1, h2⟩ := diffInner_sim EB f hf l rest trav' traversed' hs'
  rw [h1]
  exact ih _ _ _ _ h2

theorem diffLoop_eq (EA HA EB : List Entry) (idB : Bytes) :
    ∀ (fuel : Nat) (stack : List Hash) (trav traversed : List Hash) (res : List Entry),
      SameSet traversed trav →
      (Generated.Go.logDifference_loop1 EA HA EB idB fuel (stack, traversed, res)).2.2 =
        diffLoop EA EB idB fuel stack trav res := by
  intro fuel
  induction fuel with
  | zero => intro stack trav traversed res _; cases stack <;> rfl
  | succ fuel ih =>
    intro stack trav traversed res hs
    cases stack with
    | nil => simp [Generated.Go.logDifference_loop1, diffLoop]
    | cons h rest =>
      unfold Generated.Go.logDifference_loop1 diffLoop
      have hlen : ((h :: rest).length : Int) > 0 := Int.natCast_pos.mpr (Nat.succ_pos _)
      -- decide every atom the loop body may test; `simp` then evaluates whatever shape the tests have
      cases hg : get? EA h with
      | none =>
        have hA : has EA h = false := by rw [← get?_isSome, hg]; rfl
        simp only [hlen, decide_true, if_true, get?_isSome, hA, Bool.not_false,
          Bool.true_or, Bool.false_and, Bool.false_eq_true, if_false]
        exact ih rest trav traversed res hs
      | some eA =>
        have hk : omSetK res h eA = omSet res eA := by
          unfold omSetK omSet; rw [get?_some_hash hg]
        have hs' : SameSet (setInsert traversed h) (if trav.contains h = true then trav else h :: trav) := by
          intro x
          rw [contains_setInsert, hs x, contains_ite_insert trav (h :: trav) h x (by rw [List.contains_cons, Bool.or_comm])]
        have hA : has EA h = true := by rw [← get?_isSome, hg]; rfl
        have hgd : (get? EA h).getD default = eA := by rw [hg]; rfl
        cases hB : has EB h <;> cases hid : (eA.logId == idB) <;>
          simp only [hlen, decide_true, if_true, get?_isSome, hA, hgd, hB, hid, bne, hk,
            Bool.not_true, Bool.not_false, Bool.and_true, Bool.and_false, Bool.or_true, Bool.or_false, Bool.and_self,
            Bool.or_self, Bool.false_eq_true, if_false]
        -- has EB h = false, id equal: the entry is taken and its predecessors are pushed
        case false.true =>
          refine diff_push EA HA EB idB fuel ih _ ?_ rest _ _ _ hs' _
          intro x c
          obtain ⟨a, b⟩ := x
          cases b.contains c <;> cases has EB c <;> simp
        all_goals exact ih rest trav traversed res hs

theorem logDifference_eq (EA HA : List Entry) (l : Log) :
    Generated.Go.logDifference (diffFuel EA HA) EA HA l.entries l.id = some (difference EA HA l) := by
  unfold Generated.Go.logDifference difference
  simp only [Bool.or_false, Bool.or_eq_true, beq_iff_eq, Int.natCast_eq_zero]
  by_cases h0 : EA.length = 0 ∨ HA.length = 0
  · rw [if_pos h0, if_pos h0]
  · rw [if_neg h0, if_neg h0, diffLoop_eq EA HA l.entries l.id _ _ [] [] [] (fun _ => rfl)]

/-- **the verification loop of `Join`, translated**: every candidate passes the access controller and the signature
    check (whatever the order of the checks inside a goroutine) -/
theorem joinVerify_eq (canAppend verify : Entry → Bool) (items : List Entry) :
    Generated.Go.joinVerify canAppend verify items = items.all (fun e => canAppend e && verify e) := by
  simp only [Generated.Go.joinVerify, Bool.and_comm]

/-- … which is exactly when the model's `join` does not fail: **all-or-nothing** (C06) — with the translated
    `difference` as the candidates -/
theorem join_err_iff_verify (l : Log) (otherE otherH : List Entry) (size : Int) (canAppend verify : Entry → Bool) :
    join l l.id otherE otherH size (fun e => canAppend e && verify e) = .err ↔
      Generated.Go.joinVerify canAppend verify (difference otherE otherH l) = false := by
  rw [joinVerify_eq]
  unfold join
  simp only [ne_eq, not_true_eq_false, if_false, ← List.not_all_eq_any_not]
  cases (difference otherE otherH l).all (fun e => canAppend e && verify e) <;> simp

end Model.SlicesGen
