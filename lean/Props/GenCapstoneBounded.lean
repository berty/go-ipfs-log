import Props.GenCapstoneJoin
/-!
# Props.GenCapstoneBounded — the C16 statement about the TRANSLATED, size-bounded `Join`

On two replicas of one log that satisfy the structural invariant, for every bound `n ≥ 0` the translated tail of
`Join` (applied to the translated `difference`) returns — without panicking in the slice expression of the cap —
a state whose entries are exactly the last `min n total` values of the unbounded merge's linearisation and whose
heads are exactly the unreferenced entries among those.
-/
namespace Model.Capstone
open Model Model.Go Model.SlicesGen Model.C16

theorem translated_join_bounded {U : List Entry} (hU : (hashes U).Nodup) {A B : Log} (IA : Inv U A) (IB : Inv U B)
    (hid : A.id = B.id) (ho : OrderOk A.sortFn (joinU A B).entries) (n : Int) (hn : 0 ≤ n) :
    ∃ (cands E' : List Entry) (N' : List Hash) (H' : List Entry) (t : Int),
      Generated.Go.logDifference (diffFuel B.entries B.heads) B.entries B.heads A.entries A.id = some cands ∧
      Generated.Go.joinTail (fun E H => values { A with entries := E, heads := H })
        A.entries A.nextIdx A.heads A.clock.id A.clock.time cands B.heads n = some (A.clock.id, t, E', N', H') ∧
      E' = (values (joinU A B)).drop ((values (joinU A B)).length - n.toNat) ∧
      (∀ x, x ∈ H' ↔ x ∈ E' ∧ ¬ namedBy E' x.hash) :=
  ⟨_, _, _, _, _, logDifference_eq B.entries B.heads A, joinTail_joinN A B n, bounded_entries hU IA IB hid ho n hn,
    fun x => bounded_heads A B n (by omega) x⟩

end Model.Capstone
