import Proofs.FetchReach
import Proofs.FetchSync
import Generated.Facts
/-!
# C11 — fetching tolerates missing, failing and slow blocks and always terminates

All statements are about `Model.Fetcher`: the transition system of `entry/fetcher.go` whose events are
`dispatch h` (a hash leaves the queue and is requested from the store), `complete h got` (the
completion section of that request, `got = none` for an absent / failing / undecodable block or an
ended context) and `cancel` (the timeout fires).  `cfg.store` holds exactly the retrievable blocks, so a
fault set is a choice of `cfg.store`; `cfg.excluded` is `ShouldExclude`; `cfg.length` is any limit.
"For every accepted event list" = for every concurrency limit, heap order and completion order.

What is *not* proved here (see DESIGN): wall-clock ("within the configured timeout"); the harness measures
it.  Freedom from deadlock and lost wake-ups of the `sync.Cond` loop is proved for its synchronisation
skeleton `Model.FetchSync` (second half of the file), not for the Go runtime.
-/
namespace Model.C11

/-- no hash is requested from the store twice -/
theorem dispatch_once (cfg : FCfg) (roots : List Hash) (evs : List FEvent) (s : FState)
    (h : accepted cfg roots evs = some s) : (dispatchedOf evs).Nodup :=
  (List.nodup_append.mp (dispatched_fresh (WF_finit cfg roots) h).1).1

/-- no excluded or undefined hash is ever requested, and only hashes the request or a retrieved block
    names (`Req`: wanted start hashes and wanted links of retrieved entries) -/
theorem never_excluded (cfg : FCfg) (roots : List Hash) (evs : List FEvent) (s : FState)
    (h : accepted cfg roots evs = some s) :
    ∀ x ∈ dispatchedOf evs, x ≠ [] ∧ cfg.excluded x = false ∧ Req cfg roots x ∧ x ∈ mentioned cfg roots := by
  intro x hx
  have r := (dispatched_fresh (WF_finit cfg roots) h).2 x hx
  exact ⟨r.ok.1, r.ok.2, r, r.mentioned⟩

/-- no entry is returned twice (not even two entries with one hash) -/
theorem results_nodup (cfg : FCfg) (roots : List Hash) (evs : List FEvent) (s : FState)
    (h : accepted cfg roots evs = some s) : (s.results.map (·.hash)).Nodup ∧ s.results.Nodup := by
  have w := WF_accepted h
  exact ⟨w.resND, nodup_of_hashes_nodup w.resND⟩

/-- every execution is finite: at most two events per mentioned hash, plus the cancellation -/
theorem bounded (cfg : FCfg) (roots : List Hash) (evs : List FEvent) (s : FState)
    (h : accepted cfg roots evs = some s) : evs.length ≤ 2 * (mentioned cfg roots).length + 1 :=
  events_accepted h ▸ (WF_accepted h).events_le

/-- a state in which `processQueue` has not returned has an enabled event (no deadlock) -/
theorem progress (cfg : FCfg) (s : FState) (h : ¬ terminated s) : ∃ ev s', fstep cfg s ev = some s' :=
  progress_step cfg s h

theorem run_on {cfg : FCfg} {roots : List Hash} (s : FState) (w : WF cfg roots s) :
    ∃ evs' s', frun cfg s evs' = some s' ∧ terminated s' := by
  by_cases ht : terminated s
  · exact ⟨[], s, rfl, ht⟩
  · obtain ⟨ev, s1, h1⟩ := progress_step cfg s ht
    -- for the termination proof: the event count rises by one and stays under the bound
    have hdec := (FStep.of h1).events
    have hle := (WF_fstep w h1).events_le
    obtain ⟨evs', s', h2, h3⟩ := run_on s1 (WF_fstep w h1)
    exact ⟨ev :: evs', s', by simp [frun, h1, h2], h3⟩
termination_by 2 * (mentioned cfg roots).length + 1 - s.events
decreasing_by omega

/-- every execution can be continued to a terminated state (and by `bounded` cannot be continued for ever) -/
theorem can_terminate (cfg : FCfg) (roots : List Hash) (evs : List FEvent) (s : FState)
    (h : accepted cfg roots evs = some s) :
    ∃ evs' s', accepted cfg roots (evs ++ evs') = some s' ∧ terminated s' := by
  obtain ⟨evs', s', h2, h3⟩ := run_on s (WF_accepted h)
  exact ⟨evs', s', frun_append.mpr ⟨s, h, h2⟩, h3⟩

/-- unbounded load, any faults, any exclusions, not timed out: the result is exactly the set of entries
    reachable from the requested heads along paths of retrievable, non-excluded entries -/
theorem faulty_result (cfg : FCfg) (roots : List Hash) (evs : List FEvent) (s : FState)
    (hlen : cfg.length < 0) (h : accepted cfg roots evs = some s) (hq : quiescent s)
    (hc : s.cancelled = false) (e : Entry) :
    e ∈ s.results ↔ ∃ x, Reach cfg roots x ∧ get? cfg.store x = some e :=
  unbounded_complete hlen h hq hc e

/-- the same set, computed: `reachX` is what the driver compares the implementation's result with -/
theorem faulty_result_computed (cfg : FCfg) (roots : List Hash) (evs : List FEvent) (s : FState)
    (hlen : cfg.length < 0) (h : accepted cfg roots evs = some s) (hq : quiescent s)
    (hc : s.cancelled = false) (e : Entry) : e ∈ s.results ↔ e ∈ reachX cfg roots := by
  rw [unbounded_complete hlen h hq hc e, mem_reachX_iff]

/-- at any time, for any limit, timed out or not: whatever has been returned is a retrievable,
    non-excluded entry reachable from the requested heads -/
theorem partial_result_sound (cfg : FCfg) (roots : List Hash) (evs : List FEvent) (s : FState)
    (h : accepted cfg roots evs = some s) (e : Entry) (he : e ∈ s.results) :
    ∃ x, Reach cfg roots x ∧ get? cfg.store x = some e :=
  results_sound (WF_accepted h) he

/-- after the timeout nothing more is requested -/
theorem cancel_stops_dispatch (cfg : FCfg) (roots : List Hash) (before after : List FEvent) (s : FState)
    (h : accepted cfg roots (before ++ FEvent.cancel :: after) = some s) : dispatchedOf after = [] := by
  obtain ⟨s1, _, h2⟩ := frun_append.mp h
  obtain ⟨s2, h3, h4⟩ := frun_cons h2
  cases FStep.of h3
  exact (no_dispatch_after_cancel after rfl h4).1

/-! ## non-vacuity: a forked log with skip references, one absent block, one excluded hash -/

def e1 : Entry := { hash := [1], logId := [7], next := [], refs := [], clock := { id := [4], time := 1 } }
def e2 : Entry := { hash := [2], logId := [7], next := [[1]], refs := [], clock := { id := [4], time := 2 } }
def e3 : Entry := { hash := [3], logId := [7], next := [[2]], refs := [[1]], clock := { id := [4], time := 3 } }
def e4 : Entry := { hash := [4], logId := [7], next := [[2]], refs := [], clock := { id := [5], time := 3 } }
def e5 : Entry := { hash := [5], logId := [7], next := [[3], [4]], refs := [[2]], clock := { id := [4], time := 4 } }

/-- block 3 is absent, hash 9 is excluded -/
def cfgF : FCfg := { store := [e1, e2, e4, e5], length := -1, excluded := fun h => h == [9] }

def runF : List FEvent :=
  [.dispatch [5], .complete [5] (some e5), .dispatch [3], .dispatch [4], .complete [4] (some e4),
   .complete [3] none, .dispatch [2], .complete [2] (some e2), .dispatch [1], .complete [1] (some e1)]

example : (accepted cfgF [[5], [9], []] runF).map (·.results) = some [e5, e4, e2, e1] := by decide +kernel
example : (accepted cfgF [[5], [9], []] runF).map (fun s => decide (quiescent s) && !s.cancelled) = some true := by
  decide
example : reachX cfgF [[5], [9], []] = [e5, e4, e2, e1] := by decide +kernel
/-- a timed-out run: block 4 comes back empty after the cancellation although it is retrievable -/
example : (accepted cfgF [[5]] [.dispatch [5], .complete [5] (some e5), .dispatch [4], .cancel,
    .complete [4] none]).map (fun s => (s.results, decide (terminated s))) = some ([e5], true) := by decide +kernel

/-! ## the synchronisation of `processQueue`: mutex, semaphore, condition variable, cancellation

`Model/FetchSync.lean` is the dispatcher and its worker goroutines at the level of their lock, semaphore
and condition-variable operations (what the transition system above abstracts into "an enabled dispatch
/ completion happens").  For every concurrency limit ≥ 1, every number of start hashes, every finite
budget of hashes that completions may still queue, every interleaving and every moment of
cancellation: -/

open Model.FetchSync in
/-- **no deadlock and no lost wake-up**: until `processQueue` returns some goroutine can always move —
    the dispatcher never sleeps in `Wait` with nobody left to signal, and a dispatcher blocked on the
    semaphore (while holding the mutex) always has a request in flight whose worker releases its slot
    before asking for the mutex -/
theorem sync_no_deadlock (conc q0 budget : Nat) (hc : 0 < conc) (as : List Act) (s : FS)
    (h : run (init conc q0 budget) as = some s) (hnd : s.pc ≠ .done) : ∃ a s', step s a = some s' :=
  FetchSync.progress (FetchSync.inv_reachable hc h) hnd

open Model.FetchSync in
/-- **bounded**: no run is longer than `10·(budget + q0) + 3` steps: together with the previous theorem,
    every maximal run ends with the dispatcher returning -/
theorem sync_bounded (conc q0 budget : Nat) (as : List Act) (s : FS)
    (h : run (init conc q0 budget) as = some s) : as.length ≤ 10 * (budget + q0) + 3 := by
  have := FetchSync.run_bounded as h
  have hp : FetchSync.potential (init conc q0 budget) = 10 * (budget + q0) + 3 := by
    simp [FetchSync.potential, FetchSync.load, init, FetchSync.rank]
  omega

open Model.FetchSync in
/-- **at the return** no worker is left behind, every slot is free again and — unless the dispatcher gave
    up after a cancellation — nothing is left in the queue -/
theorem sync_at_return (conc q0 budget : Nat) (hc : 0 < conc) (as : List Act) (s : FS)
    (h : run (init conc q0 budget) as = some s) (hd : s.pc = .done) :
    s.t = 0 ∧ s.nF = 0 ∧ s.nW = 0 ∧ s.sem = s.conc ∧ (s.gaveUp = false → s.q = 0) :=
  FetchSync.at_return (FetchSync.inv_reachable hc h) hd

open Model.FetchSync in
/-- a completion section never runs while the dispatcher holds the mutex -/
theorem sync_exclusion (conc q0 budget : Nat) (hc : 0 < conc) (as : List Act) (s s' : FS) (k : Nat)
    (h : run (init conc q0 budget) as = some s) (he : step s (.enter k) = some s') :
    s.pc = .waiting ∨ s.pc = .waitingF ∨ s.pc = .done :=
  FetchSync.exclusion (FetchSync.inv_reachable hc h) he

open Model.FetchSync in
/-- non-vacuity: one slot, two start hashes, the first completion queues a third: a full run -/
example : (run (init 1 2 1) [.dispatch, .loopBack, .complete, .dispatch, .wait, .enter 1, .wake, .loopBack, .complete,
    .dispatch, .wait, .enter 0, .wake, .wait, .complete, .enter 0, .wake, .loopBack, .toFinal, .finish]).map
      (fun s => (s.pc, s.q, s.t, s.sem)) = some (.done, 0, 0, 1) := by decide +kernel

open Model.FetchSync in
/-- … and the loop proper: the dispatcher parks in the inner `Wait`, a completion queues a hash and wakes it -/
example : (run (init 2 1 1) [.dispatch, .wait, .complete, .enter 1, .wake, .loopBack, .dispatch, .wait, .complete,
    .enter 0, .wake, .loopBack, .toFinal, .finish]).map (fun s => (s.pc, s.q, s.t, s.budget)) =
    some (.done, 0, 0, 0) := by decide +kernel

/-- the seeded change C11c (slot released inside the completion section) as a model variant: in the state
    `stuck`, which it reaches (`FetchSync.old_variant_reaches_stuck`), only a cancellation can still happen -/
theorem slot_released_under_mutex_deadlocks :
    (∀ a, a ≠ Model.FetchSync.Act.cancel → Model.FetchSync.stepOld Model.FetchSync.stuck a = none) := by
  intro a ha
  cases a <;> simp [FetchSync.stepOld, FetchSync.step, FetchSync.stuck, FetchSync.init] at ha ⊢

/-! ### the tie of `Model.FetchSync` to entry/fetcher.go: regenerated synchronisation shape

`Generated.syncShape` is the sequence of mutex / semaphore / condition-variable operations, hook points
and sends on the main path of `Fetch` and `processQueue`, the worker goroutine's body in place with the
prefix `go:` (`harness/cmd/extract/syncshape.go`).  The model's transitions are these operations: -/

def syncOf (f : String) : List String :=
  match Generated.syncShape.find? (·.1 == f) with
  | some p => p.2
  | none => []

/-- the dispatcher takes the mutex once, acquires a slot (holding the mutex) before each dispatch, spawns
    the worker, parks in `Wait` in the loop and after it, and releases the mutex at the end; the worker
    fetches, **releases its slot, then** takes the mutex, records the completion, signals and unlocks -/
theorem sync_shape_exact : syncOf "processQueue" =
    ["muProcess.Lock", "sem.Acquire", "hook:fetch.dispatch",
     "go:fetchEntry", "go:sem.Release", "go:muProcess.Lock", "go:hook:fetch.complete",
     "go:muClock.Lock", "go:muClock.Unlock", "go:send", "go:condProcess.Signal", "go:muProcess.Unlock",
     "condProcess.Wait", "condProcess.Wait", "muProcess.Unlock"] := by rfl

/-- what `FetchSync.progress` rests on, read off the code: the slot is released before the worker asks for
    the mutex (`complete` before `enter`), and the signal is sent inside the completion section -/
theorem slot_released_before_mutex :
    (syncOf "processQueue").idxOf "go:sem.Release" < (syncOf "processQueue").idxOf "go:muProcess.Lock" ∧
    (syncOf "processQueue").idxOf "go:muProcess.Lock" < (syncOf "processQueue").idxOf "go:condProcess.Signal" ∧
    (syncOf "processQueue").idxOf "go:condProcess.Signal" < (syncOf "processQueue").idxOf "go:muProcess.Unlock" := by
  decide +kernel

/-- the timeout covers the whole load (one context for `processQueue`), not each block request -/
theorem timeout_wraps_the_load : syncOf "Fetch" = "WithTimeout" :: (syncOf "processQueue" ++ ["cancel"]) := by rfl

end Model.C11
