import Generated.Facts
import Model.Cbor
import Model.Json
/-!
# The signed map and the CBOR schema of the Go code, from the regenerated facts (C07, C08, C12, C18)

`Generated/Facts.lean` is rewritten from the Go AST before every check (`harness/cmd/extract/codecfacts.go`).
Two kinds of obligations, all closed by evaluation:

* **derived** — the serial names of the refmt atlas of `io/cbor`, in source order, are the keys the
  model's encoder writes (`atlas_*_match_model`); the keys of the map `toBuffer` marshals are the keys
  inside the byte constants of `Model.Json.toBuffer` (`signed_keys_match_model`).  Nothing here is
  copied by hand: both sides are computed.
* **expected** — the Go expression that feeds each key / field / step (`signedMap`, `hashableFields`,
  `fieldFlow`) is the one the model was transcribed from.  A change of one of these expressions is a
  change of what is signed or stored; it breaks the obligation and the streams look for an input.

Comparing two string literals with `decide` makes the kernel UTF-8-encode both, character by character.  Where a
statement equates a looked-up row with a list of literals it is therefore closed by `rfl` (the literals are compared
as they stand, only the keys of the lookup are evaluated); the others by `decide +kernel`, which skips the
elaborator's own evaluation of the same instance.
-/
namespace Model.CodecFacts
open Model

def keysOf : Cbor.Item → List Bytes
  | .map l => l.map (·.1)
  | _ => []

def atlas (t : String) : List (List Nat) :=
  match Generated.atlasKeys.find? (·.1 == t) with
  | some p => p.2
  | none => []

/-- an entry with every optional field present -/
def jFull : Cbor.JEntry :=
  { v := 2, next := some [], refs := some [], clock := some { id := [], time := 0 },
    identity := some { id := [], typ := [], publicKey := [], signatures := some { id := [], publicKey := [] } },
    encLinks := [1], encNonce := [1] }

theorem atlas_entry_match_model : atlas "jsonable.Entry" = keysOf (Cbor.entryItem jFull) := by decide +kernel
theorem atlas_entryV1_match_model : atlas "jsonable.EntryV1" = keysOf (Cbor.entryItemV1 jFull) := by decide +kernel
theorem atlas_clock_match_model : atlas "jsonable.LamportClock" = keysOf (Cbor.clockItem jFull.clock) := by decide +kernel
theorem atlas_identity_match_model : atlas "jsonable.Identity" = keysOf (Cbor.identityItem jFull.identity) := by decide +kernel
theorem atlas_signature_match_model :
    atlas "jsonable.IdentitySignature" = keysOf (Cbor.sigItem (some { id := [], publicKey := [] })) := by decide +kernel
theorem atlas_manifest_match_model : atlas "iface.JSONLog" = keysOf (Cbor.logItem {}) := by decide +kernel
/-- the omit-empty flags: exactly the two encrypted-link fields of the entry (and the additional data of
    the hashable) -/
theorem atlas_omitEmpty :
    (Generated.atlasFields.filter (fun a => a.2.2.2 != "false")).map (fun a => (a.1, a.2.2.1)) =
      [("jsonable.Entry", "enc_links"), ("jsonable.Entry", "enc_links_nonce"), ("iface.Hashable", "additional_data")] := by
  rfl

def skey (path : String) : List Nat :=
  match Generated.signedKeys.find? (·.1 == path) with
  | some p => p.2
  | none => []

/-- `"k":` -/
def jk (k : List Nat) : List Nat := 34 :: (k ++ [34, 58])

/-- the byte constants of the model's `toBuffer` are built from the keys of the Go map, in the order
    `encoding/json` writes a map (sorted) -/
theorem signed_keys_match_model :
    Json.kAdditional = jk (skey "additional_data") ∧
    Json.kClockId = jk [99, 108, 111, 99, 107] ++ 123 :: jk (skey "clock.id") ∧
    Json.kTime = 44 :: jk (skey "clock.time") ∧
    Json.kHashId = [125, 44] ++ jk (skey "hash") ++ [110, 117, 108, 108, 44] ++ jk (skey "id") ∧
    Json.kNext = 44 :: jk (skey "next") ∧
    Json.kPayload = 44 :: jk (skey "payload") ∧
    Json.kRefs = 44 :: jk (skey "refs") ∧
    Json.kV = 44 :: jk (skey "v") := by decide +kernel

/-- there is no other key, and the map itself is what is marshalled -/
theorem signed_map_exact : Generated.signedMap =
    [("hash", "nil"), ("id", "e.ID"), ("payload", "string(e.Payload)"), ("next", "e.Next"), ("refs", "e.Refs"),
     ("v", "e.V"), ("clock.id", "hex.EncodeToString(e.Clock.GetID())"), ("clock.time", "e.Clock.GetTime()"),
     ("additional_data?", "e.AdditionalData"), ("<marshal>", "data")] := by rfl

/-- `ToHashable` copies every field from the entry's getters, unconditionally (`<body>`: the statements of the
    function other than local definitions, filling loops, error returns and the return — none) -/
theorem hashable_exact : Generated.hashableFields =
    [("Hash", "nil"), ("ID", "e.GetLogID()"), ("Payload", "e.GetPayload()"), ("Next", "nexts"), ("Refs", "refs"),
     ("V", "e.GetV()"), ("Clock", "e.GetClock()"), ("Key", "e.GetKey()"), ("AdditionalData", "e.GetAdditionalData()"),
     ("<body>", "")] := by rfl

def flow (f : String) : List String :=
  match Generated.fieldFlow.find? (·.1 == f) with
  | some p => p.2
  | none => []

/-- creation: key set, then `PreSign`, then the signed bytes, signature, identity, block -/
theorem create_flow : flow "CreateEntryWithIO" =
    ["call Copy()", "call SetClock(CopyLamportClock(clock))", "call SetClock(NewLamportClock(identity.PublicKey, 0))",
     "call SetV(2)", "call SetKey(identity.PublicKey)", "call PreSign(data)", "call ToHashable(data)",
     "call toBuffer(hashable)", "call Sign(ctx, identity, jsonBytes)", "call SetKey(identity.PublicKey)",
     "call SetSig(signature)", "call SetIdentity(identity.Filtered())",
     "call ToMultihashWithIO(ctx, data, ipfsInstance, opts, io)", "call SetHash(h)"] := by rfl

/-- verification recomputes exactly the bytes of creation: `PreSign`, `ToHashable`, `toBuffer` -/
theorem verify_flow : flow "Entry.Verify" =
    ["call PreSign(e)", "call ToHashable(verifiedEntry)", "call toBuffer(hashable)", "call Verify(jsonBytes, e.Sig)"] := by
  rfl

/-- `PreSign` seals both link lists, with a nonce derived from the entry -/
theorem presign_flow : flow "IOCbor.PreSign" =
    ["call Copy()", "links.Next = entry.GetNext()", "links.Refs = entry.GetRefs()", "call Marshal(links)",
     "call DeriveNonce(NonceRefForEntry(entry))", "call SealWithNonce(cborPayload, nonce)",
     "call SetAdditionalDataValue(iface.KeyEncryptedLinks, base64.StdEncoding.EncodeToString(encryptedLinks))",
     "call SetAdditionalDataValue(iface.KeyEncryptedLinksNonce, base64.StdEncoding.EncodeToString(nonce))"] := by rfl

/-- the nonce reference covers the predecessors, key, payload, clock, log id and version -/
theorem nonce_ref_flow : flow "NonceRefForEntry" =
    ["call Sprintf('%s,%s,%s,%s,%d,%s,%d', next, entry.GetKey(), entry.GetPayload(), entry.GetClock().GetID(), entry.GetClock().GetTime(), entry.GetLogID(), entry.GetV())"] := by
  rfl

/-- reading restores both lists -/
theorem decrypt_flow : flow "IOCbor.DecryptLinks" =
    ["call OpenWithNonce(encryptedLinks, encryptedLinksNonce)", "call Unmarshal(dec, links)",
     "entry.Next = links.Next", "entry.Refs = links.Refs"] := by rfl

theorem decode_flow : flow "IOCbor.DecodeRawEntry" =
    ["call DecryptLinks(obj)", "obj.Hash = hash", "call ToPlain(e, p, i.refClock.New)", "call SetHash(hash)",
     "call SetIdentity(i.constantIdentity)", "call SetKey(i.constantIdentity.PublicKey)"] := by rfl

/-- the stored form of a V2 entry: every field from its getter; with sealed links both lists are blanked -/
theorem jsonable_v2_flow : (flow "ToJsonableEntry").drop 17 =
    ["EntryV2.V := e.GetV()", "EntryV2.LogID := e.GetLogID()", "EntryV2.Key := hex.EncodeToString(e.GetKey())",
     "EntryV2.Sig := hex.EncodeToString(e.GetSig())", "EntryV2.Hash := nil", "EntryV2.Next := e.GetNext()",
     "EntryV2.Refs := e.GetRefs()", "EntryV2.Clock := ToJsonableLamportClock(e.GetClock())",
     "EntryV2.Payload := string(e.GetPayload())", "EntryV2.Identity := identity",
     "ret.EncryptedLinks = encryptedLinks", "ret.EncryptedLinksNonce = encryptedLinksNonce",
     "ret.Next = []cid.Cid{}", "ret.Refs = []cid.Cid{}"] := by rfl

theorem toPlain_flow : flow "Entry.ToPlain" =
    ["call ToPlain(clock)", "call ToPlain(provider)", "call SetV(c.V)", "call SetLogID(c.LogID)", "call SetKey(key)",
     "call SetSig(sig)", "call SetNext(c.Next)", "call SetRefs(c.Refs)", "call SetClock(clock)",
     "call SetPayload([]byte(c.Payload))", "call SetIdentity(identity)"] := by rfl

/-- `Copy` keeps every field (links de-duplicated) -/
theorem copy_flow : flow "Entry.Copy" =
    ["Entry.Payload := e.Payload", "Entry.LogID := e.LogID", "Entry.Next := uniqueCIDs(e.Next)",
     "Entry.Refs := uniqueCIDs(e.Refs)", "Entry.V := e.V", "Entry.Key := e.Key", "Entry.Sig := e.Sig",
     "Entry.Identity := e.Identity", "Entry.Hash := e.Hash", "Entry.Clock := clock",
     "Entry.AdditionalData := additionalData", "call uniqueCIDs(e.Next)", "call uniqueCIDs(e.Refs)"] := by rfl

end Model.CodecFacts
