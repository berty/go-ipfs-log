import Proofs.System
/-!
# C02 — heads are exactly the entries nothing else in the log points to

For every replica of every reachable system (every prefix of every history of appends and unbounded
merges, including merges of overlapping, already-merged and diverged logs).
-/
namespace Model.C02

theorem heads_spec {s : Sys} (hr : Reachable s) {r : Nat} {l : Log} (hl : s.logs r = some l) (x : Entry) :
    x ∈ l.heads ↔ x ∈ l.entries ∧ ¬ namedBy l.entries x.hash :=
  ((reachable_inv hr).inv r l hl).mem_heads

/-- the same statement on the decidable predicate the harness evaluates on the implementation -/
theorem heads_spec_bool {s : Sys} (hr : Reachable s) {r : Nat} {l : Log} (hl : s.logs r = some l) (x : Entry) :
    x ∈ l.heads ↔ x ∈ l.entries ∧ referenced l.entries x.hash = false := by
  rw [heads_spec hr hl x, ← referenced_iff]
  simp

theorem heads_nonempty {s : Sys} (hr : Reachable s) {r : Nat} {l : Log} (hl : s.logs r = some l)
    (hne : l.entries ≠ []) : l.heads ≠ [] :=
  Model.heads_nonempty ((reachable_inv hr).inv r l hl) hne

theorem heads_subset {s : Sys} (hr : Reachable s) {r : Nat} {l : Log} (hl : s.logs r = some l) :
    ∀ x ∈ l.heads, x ∈ l.entries := ((reachable_inv hr).inv r l hl).headsIn

theorem heads_no_duplicates {s : Sys} (hr : Reachable s) {r : Nat} {l : Log} (hl : s.logs r = some l) :
    (hashes l.heads).Nodup := ((reachable_inv hr).inv r l hl).headsNodup

/-- the heads the API returns (`Heads()`: sorted) are the same set -/
theorem sorted_heads_same {s : Sys} (hr : Reachable s) {r : Nat} {l : Log} (hl : s.logs r = some l) (x : Entry) :
    x ∈ sortedHeads l ↔ x ∈ l.heads := mem_sortedHeads ((reachable_inv hr).inv r l hl).headsNodup

end Model.C02
