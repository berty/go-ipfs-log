import Proofs.Codec
/-!
# C08 — entry encoding is canonical and decoding is its exact inverse

`cborEntry`/`cborEntryV1`/`cborManifest` are the bytes `cbornode.WrapObject` produces through the atlas
of `io/cbor/cbor.go` (tied byte for byte to the real encoder by the `codec` stream); `decodeEntry`/
`decodeManifest` read a block into the struct; `jsonOf` is `Normalize` + `ToJsonableEntry`,
`toPlainEntry` is `Entry.ToPlain`, `writeEntry` is `IOCbor.Write`, `decodeRawEntry` is
`IOCbor.DecodeRawEntry`.

Hypotheses used below (none of them is ever false of a value held by a Go program that was created
by `CreateEntry` or returned by a decoder):
* `JEntry.wf` / `JLog.wf` / `PEntry.fits`: `V` is a `uint64`, the clock time an `int64`, every length
  is below 2^64;
* `PEntry.encodable`: byte fields that are hex-encoded hold bytes (< 256), the clock pointer is set
  and an identity has its signatures (otherwise `Write` panics, see C12);
* `noEncLinks`: the default codec — the entry does not carry encrypted-link additional data;
* `linksDefined`: no undefined CID among the links (otherwise `Write` returns an error).

The content identifier is `CIDv1(dag-cbor, sha2-256(block))`: equal blocks have equal identifiers;
the hash function and the CID layer are not modelled (the stream compares real CIDs).
-/
namespace Model.C08
open Model Model.Cbor Model.Codec

/-- decoding a v2 entry block gives back the serialisable value, for all field values -/
theorem cbor_roundtrip (j : JEntry) (h : j.wf) : decodeEntry (cborEntry j) = some j :=
  entry_roundtrip j h

/-- a v1 block (no `refs`, no encrypted-link fields) decodes to the same value with those fields zero -/
theorem cbor_roundtrip_v1 (j : JEntry) (h : j.wf) :
    decodeEntry (cborEntryV1 j) = some { j with refs := none, encLinks := [], encNonce := [] } :=
  entryV1_roundtrip j h

/-- decoding a manifest block gives back the manifest -/
theorem manifest_roundtrip (m : JLog) (h : m.wf) : decodeManifest (cborManifest m) = some m :=
  Model.Cbor.manifest_roundtrip m h

/-- `ToPlain ∘ ToJsonable` gives back every field (any payload bytes), the hash and the additional
    data excepted (they are not part of the serialisable value) -/
theorem toPlain_toJsonable (cidStr : Bytes → Bytes) (e : PEntry) (hv : 2 ≤ e.v) (h : e.encodable) (ha : noEncLinks e) :
    ∃ j, jsonOf cidStr e = .ok (.v2 j) ∧ toPlainEntry j = .ok { e with hash := none, add := [] } :=
  ⟨jV2Of e, jsonOf_v2 cidStr e hv h ha, toPlain_jV2Of e h⟩

/-- the same for a version-1 entry: `refs` is not stored -/
theorem toPlain_toJsonable_v1 (cidStr : Bytes → Bytes) (e : PEntry) (hv : e.v = 1) (h : e.encodable) :
    ∃ j, jsonOf cidStr e = .ok (.v1 j) ∧
      toPlainEntry { j with refs := none } = .ok { e with refs := none, hash := none, add := [] } :=
  ⟨_, jsonOf_v1 cidStr e hv h, toPlain_jV2Of_with e h e.next none [] []⟩

/-- writing an entry with the default codec and reading the block back yields an entry equal in every
    field (the hash is the block's identifier; additional data is not stored) -/
theorem write_read (C : Crypto) (cidStr : Bytes → Bytes) (e : PEntry) (hh : Bytes) (hv : 2 ≤ e.v) (h : e.encodable)
    (ha : noEncLinks e) (hf : e.fits) (hd : linksDefined e.next = true ∧ linksDefined e.refs = true) :
    ∃ b, writeEntry cidStr e = .ok b ∧ decodeRawEntry C none hh b = .ok { e with hash := some hh, add := [] } := by
  refine ⟨cborEntry (jV2Of e), ?_, ?_⟩
  · have h1 : linksDefined (jV2Of e).next = true := hd.1
    have h2 : linksDefined (jV2Of e).refs = true := hd.2
    simp [writeEntry, jsonOf_v2 cidStr e hv h ha, h1, h2]
  · rw [decodeRaw_cborEntry _ _ _ _ (jV2Of_wf e hf)]
    simp [decodeJEntry, decryptLinks, toPlain_jV2Of e h]

/-- re-encoding the decoded entry gives the same block, hence the same content identifier -/
theorem reencode_same (C : Crypto) (cidStr : Bytes → Bytes) (e : PEntry) (hh : Bytes) (hv : 2 ≤ e.v) (h : e.encodable)
    (ha : noEncLinks e) (hf : e.fits) (hd : linksDefined e.next = true ∧ linksDefined e.refs = true) :
    ∀ b e', writeEntry cidStr e = .ok b → decodeRawEntry C none hh b = .ok e' → writeEntry cidStr e' = .ok b := by
  intro b e' hw hr
  obtain ⟨b0, hw0, hr0⟩ := write_read C cidStr e hh hv h ha hf hd
  cases hw0.symm.trans hw
  cases hr0.symm.trans hr
  -- hash and additional data do not reach the block
  have hc : jsonOf cidStr { e with hash := some hh, add := [] } = jsonOf cidStr e :=
    (jsonOf_v2 cidStr { e with hash := some hh, add := [] } hv h (Or.inl rfl)).trans (jsonOf_v2 cidStr e hv h ha).symm
  rw [← hw0, writeEntry, writeEntry, hc]

/-- version-1 entries (legacy blocks without `refs`): write, read back, re-encode -/
theorem write_read_v1 (C : Crypto) (cidStr : Bytes → Bytes) (e : PEntry) (hh : Bytes) (hv : e.v = 1) (h : e.encodable)
    (hf : e.fits) (hd : linksDefined e.next = true) :
    ∃ b, writeEntry cidStr e = .ok b ∧
      decodeRawEntry C none hh b = .ok { e with refs := none, hash := some hh, add := [] } ∧
      writeEntry cidStr { e with refs := none, hash := some hh, add := [] } = .ok b := by
  refine ⟨cborEntryV1 (jV2Of e), ?_, ?_, ?_⟩
  · simp only [writeEntry, jsonOf_v1 cidStr e hv h, Outcome.ok_bind]
    exact if_pos hd
  · rw [decodeRaw_cborEntryV1 _ _ _ _ (jV2Of_wf e hf)]
    show (toPlainEntry { jV2Of e with next := e.next, refs := none, encLinks := [], encNonce := [] }).bind _ = _
    rw [toPlain_jV2Of_with e h]
    rfl
  · simp only [writeEntry, jsonOf_v1 cidStr { e with refs := none, hash := some hh, add := [] } hv h, Outcome.ok_bind]
    exact if_pos hd

/-- the block does not depend on how the additional-data map is laid out in memory (Go map iteration
    order), only on what its keys map to; all other inputs of the encoder are ordered lists -/
theorem encoding_ignores_map_order (cidStr : Bytes → Bytes) (e : PEntry) (a1 a2 : List (Bytes × Bytes))
    (h : ∀ k, lookup k a1 = lookup k a2) :
    writeEntry cidStr { e with add := a1 } = writeEntry cidStr { e with add := a2 } := by
  simp only [writeEntry, jsonOf_add_congr cidStr e a1 a2 h]

/-- with a link key: the entry read back with the same key is equal in every field to the entry
    that was created (links de-duplicated as `Entry.Copy` does before signing) — provided the stored value
    fits the CBOR heads (`j.wf`; no law of `CryptoLaws` bounds the length of a sealed box) -/
theorem linkkey_write_read (C : Crypto) (L : CryptoLaws C) (cidStr : Bytes → Bytes) (k : Bytes) (hk : keyOk k)
    (e : PEntry) (hh : Bytes) (h : LinkEntry e) :
    ∃ j, storedView C cidStr (some k) e = .ok (.v2 j) ∧
      (j.wf → decodeRawEntry C (some k) hh (cborEntry j) = .ok (readBack e hh)) := by
  obtain ⟨ref, hs⟩ := storedView_eq C cidStr k e h
  refine ⟨_, hs, fun hw => ?_⟩
  rw [decodeRaw_cborEntry _ _ _ _ hw]
  simp only [decodeJEntry, decryptLinks_same_key C L k ref e hk h, Outcome.ok_bind, toPlain_storedJ_links C k ref e h.henc]
  rfl

/-! ### the hypotheses are satisfiable -/

def sampleEntry : PEntry :=
  { payload := [104, 255, 0], logId := [65], next := some [[1, 113, 18, 1, 7]], refs := some [], v := 2, key := [4, 200],
    sig := [48, 1], identity := some { id := [105], publicKey := [4, 9], signatures := some { id := [1], publicKey := [2] }, typ := [111] },
    clock := some { id := [4, 200], time := -3 } }

theorem sample_encodable : sampleEntry.encodable :=
  ⟨by decide, by decide, ⟨_, rfl, by decide⟩, fun i hi => by
    simp only [sampleEntry, Option.some.injEq] at hi
    subst hi
    exact ⟨by decide, _, rfl, by decide, by decide⟩⟩

theorem sample_fits : sampleEntry.fits := by
  simp [PEntry.fits, PIdentity.fits, PSig.fits, sampleEntry, linksWf, two64]

example : ∃ b, writeEntry id sampleEntry = .ok b ∧
    decodeRawEntry ⟨fun _ _ m => m, fun _ _ c => some c, fun _ => [0]⟩ none [9] b =
      .ok { sampleEntry with hash := some [9], add := [] } :=
  write_read _ id sampleEntry [9] (by decide) sample_encodable (Or.inl rfl) sample_fits ⟨by decide, by decide⟩

example : (jV2Of sampleEntry).wf := jV2Of_wf _ sample_fits

end Model.C08
