import Generated.Sorting
import Model.Sorting
/-!
# C19 / C03 — the comparison code of the library, translated, equals the model

`Generated/Sorting.lean` is produced on every run by `harness/cmd/extract/translate.go` from
`entry/lamportclock.go` (`LamportClock.Compare`), `entry/sorting/sorting.go` (`SortByClocks`,
`SortByClockID`, `First`, `LastWriteWins`, `FirstWriteWins`, `SortByEntryHash`, `NoZeroes`) and `log.go`
(`maxInt`, `minInt`): it is what the code *says*.  The theorems below identify it with the hand-written
`Model.Sorting` that every ordering theorem (C19, and through `before` C01–C05, C09, C10, C15, C16) is
about.  For these functions the tie between model and code is therefore a proof, not a sample: a change
of the code changes the generated definitions and the equalities are re-checked (a change outside the
translatable subset makes the generated file fail to elaborate).
-/
namespace Model.C19Gen
open Model

theorem clockCompare_eq (a b : Clock) : Generated.Go.clockCompare a b = clockCompare a b := rfl

theorem lastWriteWins_eq (a b : Entry) : Generated.Go.lastWriteWins a b = some (cmpLWW a b) := by
  simp only [Generated.Go.lastWriteWins, Generated.Go.sortByClocks, Generated.Go.sortByClockID,
    Generated.Go.first, cmpLWW, clockCompare_eq, apply_ite some]
  rfl

theorem firstWriteWins_eq (a b : Entry) : Generated.Go.firstWriteWins a b = some (cmpFWW a b) := by
  simp only [Generated.Go.firstWriteWins, lastWriteWins_eq, cmpFWW]

theorem sortByEntryHash_eq (a b : Entry) : Generated.Go.sortByEntryHash a b = some (cmpHash a b) := by
  simp only [Generated.Go.sortByEntryHash, Generated.Go.sortByClocks, Generated.Go.sortByClockID,
    cmpHash, clockCompare_eq, apply_ite some]

theorem noZeroes_eq (f : Entry → Entry → Option Int) (a b : Entry) :
    Generated.Go.noZeroes f a b = (f a b).bind (fun r => if r ≠ 0 then some r else none) := by
  simp only [Generated.Go.noZeroes]
  cases f a b <;> rfl

/-- `NoZeroes` followed by reading the integer (an error reads as 0) changes nothing -/
theorem getD_noZero (c : Int) : (if c ≠ 0 then some c else none).getD 0 = c := by
  by_cases h : c = 0
  · rw [if_neg (not_not_intro h), h]; rfl
  · rw [if_pos h]; rfl

/-- the less-function `sorting.Sort(NoZeroes(f), _, true)` builds (`ret > 0`, `false` on an error) is the
    model's `before`, and the ascending one (`ret < 0`) its `beforeAsc`, for the three orderings -/
theorem sort_less_eq (a b : Entry) :
    (decide (((Generated.Go.noZeroes Generated.Go.lastWriteWins a b).getD 0) > 0) = before .lww a b) ∧
    (decide (((Generated.Go.noZeroes Generated.Go.firstWriteWins a b).getD 0) > 0) = before .fww a b) ∧
    (decide (((Generated.Go.noZeroes Generated.Go.sortByEntryHash a b).getD 0) > 0) = before .byHash a b) ∧
    (decide (((Generated.Go.noZeroes Generated.Go.lastWriteWins a b).getD 0) < 0) = beforeAsc .lww a b) ∧
    (decide (((Generated.Go.noZeroes Generated.Go.firstWriteWins a b).getD 0) < 0) = beforeAsc .fww a b) ∧
    (decide (((Generated.Go.noZeroes Generated.Go.sortByEntryHash a b).getD 0) < 0) = beforeAsc .byHash a b) := by
  simp only [noZeroes_eq, lastWriteWins_eq, firstWriteWins_eq, sortByEntryHash_eq, Option.bind_some, getD_noZero]
  exact ⟨rfl, rfl, rfl, rfl, rfl, rfl⟩

theorem maxInt_eq (x y : Int) : Generated.Go.maxInt x y = max x y := by
  simp only [Generated.Go.maxInt, Int.max_comm x y, Int.max_def, ← Int.not_lt, ite_not]

theorem minInt_eq (x y : Int) : Generated.Go.minInt x y = min x y := by
  simp only [Generated.Go.minInt, Int.min_def, ← Int.not_lt, ite_not]

end Model.C19Gen
