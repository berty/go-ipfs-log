import Proofs.FetchLimited
import Proofs.LoadKeeping
import Proofs.LoadersUnbounded
/-!
# C10 — a length-limited load returns exactly the most recent entries (fetcher + sort-and-trim)

Hypotheses common to the theorems (`n = cfg.length ≥ 0`):
* `hex`  nothing is excluded;
* `ClosedStore`: of its three clauses only `undef` (no block under the undefined hash) is used.
  `rootsIn`/`nextIn` are not needed: a missing block ends a `next`-path there, and the conclusions speak of
  retrievable ancestors only, so the statements hold for faulty stores as well;
* `TimesIncrease` a `next` predecessor has a strictly smaller clock time (what `Append` guarantees, C04);
* the event list is accepted, ends quiescent and was not timed out.
"For every accepted event list" = every concurrency level, heap order and block arrival order.

`fetch_limited_superset`: the result is duplicate-free, consists of fetchable entries only, and every
ancestor (along `next`) of the start hashes is either in the result or has at least `n` results with a
strictly larger clock time — so none of the newest `n` (under any ordering that puts larger times later)
is missing.

`load_limited_exact`: consequently the loaders' sort-and-trim (`sortTrim`, i.e. `sorting.Sort` + `entryLastN`)
gives the same list as sorting and trimming the *whole* closure: the loaded entries do not depend on the
event list, and there are exactly `min n size` of them.  This covers `NewFromMultihash` and `NewFromJSON`
(trim length = fetch length = `n`).  `NewFromEntryHash` fetches with `n` but trims with `max n 1`: covered for
`n ≥ 1`; the corner `n = 0` (result = the requested entry) is exercised by the `fetch` stream only.

`load_entries_limited_exact`: the fourth loader, `NewFromEntry`, does not trim with `entryLastN` but with
`entryLastNKeeping` (every supplied entry stays, the quota goes to the newest others).  For every accepted
execution of the fetch with length `max n k` (k = number of supplied entries, repetitions counted) the
loaded log holds exactly what the keeping cut of the *whole* sorted closure holds: all supplied entries,
`min (max n k) size` entries in all, and of the others exactly the newest `max n k - d` (d = number of
distinct supplied entries) — whatever the concurrency and the arrival order.
-/
namespace Model

/-- no faults (the proofs below use `undef` alone) -/
structure ClosedStore (cfg : FCfg) (roots : List Hash) : Prop where
  rootsIn : ∀ h ∈ roots, (get? cfg.store h).isSome
  nextIn : ∀ h e, get? cfg.store h = some e → ∀ c ∈ e.next, (get? cfg.store c).isSome
  undef : get? cfg.store [] = none

namespace C10

theorem fetch_limited_superset (cfg : FCfg) (roots : List Hash) (evs : List FEvent) (s : FState)
    (hlen : 0 ≤ cfg.length) (hex : ∀ h, cfg.excluded h = false) (hcl : ClosedStore cfg roots)
    (hti : TimesIncrease cfg) (h : accepted cfg roots evs = some s) (hq : quiescent s)
    (hc : s.cancelled = false) :
    -- duplicate-free
    (s.results.map (·.hash)).Nodup ∧
    -- only fetchable entries (ancestors, when references point to ancestors: `Reach.anc`)
    (∀ r ∈ s.results, ∃ x, Reach cfg roots x ∧ get? cfg.store x = some r) ∧
    -- an ancestor is admitted, or cut below `n` admitted entries with strictly larger time
    (∀ x ex, Anc cfg roots x → get? cfg.store x = some ex →
      ex ∈ s.results ∨ cfg.length ≤ (cntGt s.results ex.clock.time : Int)) ∧
    -- hence: an ancestor that fewer than `n` fetchable entries exceed in time is in the result
    (∀ x ex, Anc cfg roots x → get? cfg.store x = some ex →
      (∀ L : List Entry, (L.map (·.hash)).Nodup →
        (∀ r ∈ L, (∃ y, Reach cfg roots y ∧ get? cfg.store y = some r) ∧ r.clock.time > ex.clock.time) →
        (L.length : Int) < cfg.length) → ex ∈ s.results) := by
  have w := WF_accepted h
  have hcut := fun x ex ha hg => limited_admitted_or_cut (x := x) (ex := ex) hlen hex hcl.undef hti h hq hc ha hg
  refine ⟨w.resND, fun r hr => results_sound w hr, hcut,
    fun x ex ha hg hfew => (hcut x ex ha hg).resolve_right fun h1 => ?_⟩
  -- the results newer than `ex` are such a list `L`
  rw [cntGt_eq_countP, List.countP_eq_length_filter] at h1
  have := hfew _ ((List.filter_sublist.map _).nodup w.resND) fun r hr =>
    ⟨results_sound w (List.mem_filter.mp hr).1, of_decide_eq_true (List.mem_filter.mp hr).2⟩
  omega

/-- with fewer than `n` fetchable entries nothing is cut -/
theorem fetch_limited_all_when_small (cfg : FCfg) (roots : List Hash) (evs : List FEvent) (s : FState)
    (hlen : 0 ≤ cfg.length) (hex : ∀ h, cfg.excluded h = false) (hcl : ClosedStore cfg roots)
    (hti : TimesIncrease cfg) (h : accepted cfg roots evs = some s) (hq : quiescent s)
    (hc : s.cancelled = false) (hsmall : ((reach cfg.store roots).length : Int) ≤ cfg.length)
    (x : Hash) (ex : Entry) (ha : Anc cfg roots x) (hg : get? cfg.store x = some ex) : ex ∈ s.results := by
  refine (fetch_limited_superset cfg roots evs s hlen hex hcl hti h hq hc).2.2.2 x ex ha hg fun L hL hLr => ?_
  -- `ex` and the members of `L`, all newer, are distinct members of the closure
  have hbig := List.Nodup.length_le_of_subset (l₁ := ex :: L) (l₂ := reach cfg.store roots)
    (List.nodup_cons.mpr ⟨fun hm => Int.lt_irrefl _ (hLr ex hm).2, nodup_of_hashes_nodup hL⟩)
    (fun y hy => by
      cases hy with
      | head => exact (mem_reach_iff cfg roots hex hcl.undef ex).mpr ⟨x, ha.reach hex hcl.undef (hg ▸ rfl), hg⟩
      | tail _ hm => exact (mem_reach_iff cfg roots hex hcl.undef y).mpr (hLr y hm).1)
  rw [List.length_cons] at hbig
  omega

theorem results_vs_closure {cfg : FCfg} {roots : List Hash} {evs : List FEvent} {s : FState}
    (hlen : 0 ≤ cfg.length) (hex : ∀ h, cfg.excluded h = false) (hcl : ClosedStore cfg roots)
    (hti : TimesIncrease cfg)
    (hrefs : ∀ h e, Anc cfg roots h → get? cfg.store h = some e → ∀ c ∈ e.refs, Anc cfg roots c)
    (h : accepted cfg roots evs = some s) (hq : quiescent s) (hc : s.cancelled = false) :
    (∀ r ∈ s.results, r ∈ reach cfg.store roots) ∧
    ∀ a ∈ reach cfg.store roots, a ∈ s.results ∨ cfg.length ≤ (cntGt s.results a.clock.time : Int) := by
  refine ⟨fun r hr => (mem_reach_iff cfg roots hex hcl.undef r).mpr (results_sound (WF_accepted h) hr),
    fun a ha => ?_⟩
  obtain ⟨x, rx, hg⟩ := (mem_reach_iff cfg roots hex hcl.undef a).mp ha
  exact limited_admitted_or_cut hlen hex hcl.undef hti h hq hc (rx.anc hrefs) hg

/-- the loaders' sort-and-trim of any execution's result equals that of the whole closure -/
theorem load_limited_exact (cfg : FCfg) (roots : List Hash) (evs : List FEvent) (s : FState)
    (lt : Entry → Entry → Bool)
    (hlen : 0 ≤ cfg.length) (hex : ∀ h, cfg.excluded h = false) (hcl : ClosedStore cfg roots)
    (hti : TimesIncrease cfg)
    -- references point to ancestors (C04)
    (hrefs : ∀ h e, Anc cfg roots h → get? cfg.store h = some e → ∀ c ∈ e.refs, Anc cfg roots c)
    -- the ordering is a strict total order on the closure that puts larger clock times later
    (hsto : STO lt (· ∈ reach cfg.store roots))
    (hasym : ∀ a b, a ∈ reach cfg.store roots → b ∈ reach cfg.store roots → lt a b = true → lt b a = false)
    (htime : ∀ a b, a ∈ reach cfg.store roots → b ∈ reach cfg.store roots →
      a.clock.time < b.clock.time → lt a b = true)
    (h : accepted cfg roots evs = some s) (hq : quiescent s) (hc : s.cancelled = false) :
    sortTrim lt cfg.length s.results = sortTrim lt cfg.length (reach cfg.store roots) ∧
    (sortTrim lt cfg.length s.results).length = min cfg.length.toNat (reach cfg.store roots).length := by
  obtain ⟨hsubR, hcut⟩ := results_vs_closure hlen hex hcl hti hrefs h hq hc
  have heq := lastN_sort_eq hsto hasym htime (fun _ h => h) (nodup_of_hashes_nodup (reach_nodup cfg.store roots))
    (nodup_of_hashes_nodup (WF_accepted h).resND) hsubR hcut
  have hn : cfg.length > -1 := by omega
  unfold sortTrim
  rw [if_pos hn, if_pos hn, heq, lastN_length, (goSort_perm lt _).length_eq]
  exact ⟨rfl, rfl⟩

/-- `NewFromEntry` with a limit: all supplied entries plus the most recent others, independent of the schedule -/
theorem load_entries_limited_exact (cfg : FCfg) (roots : List Hash) (evs : List FEvent) (s : FState)
    (clockId : Bytes) (k : SortKind) (source : List Entry) (n : Int)
    (hn : 0 ≤ n) (hne : source ≠ [])
    -- `fromEntry`: the fetch runs with `maxInt(n, len(sourceEntries))`
    (hlen : cfg.length = max n (source.length : Int))
    -- the supplied entries are entries of the stored log
    (hsrc : ∀ e ∈ source, e ∈ reach cfg.store roots)
    (hex : ∀ h, cfg.excluded h = false) (hcl : ClosedStore cfg roots) (hti : TimesIncrease cfg)
    (hrefs : ∀ h e, Anc cfg roots h → get? cfg.store h = some e → ∀ c ∈ e.refs, Anc cfg roots c)
    (hsto : STO clockAsc (· ∈ reach cfg.store roots))
    (hasym : ∀ a b, a ∈ reach cfg.store roots → b ∈ reach cfg.store roots → clockAsc a b = true → clockAsc b a = false)
    (htime : ∀ a b, a ∈ reach cfg.store roots → b ∈ reach cfg.store roots →
      a.clock.time < b.clock.time → clockAsc a b = true)
    (h : accepted cfg roots evs = some s) (hq : quiescent s) (hc : s.cancelled = false) :
    ∃ L, loadEntries clockId k source s.results n = some L ∧
      -- the same list as the keeping cut of the whole sorted closure: independent of the event list
      L.entries = lastNKeeping cfg.length (goSort clockAsc (reach cfg.store roots)) source ∧
      -- every supplied entry is there
      (∀ e ∈ source, e ∈ L.entries) ∧
      -- `min (max n k) size` entries in all
      L.entries.length = min cfg.length.toNat (reach cfg.store roots).length ∧
      -- an entry that was not supplied is there iff it is among the newest `max n k - d` of the others
      (∀ x, x ∈ reach cfg.store roots → x ∉ source →
        (x ∈ L.entries ↔ x ∈ lastN (cfg.length - (dedupHashes (source.map (·.hash)) []).length)
          ((goSort clockAsc (reach cfg.store roots)).filter (fun e => !keptBy source e)))) := by
  obtain ⟨hsubR, hcut⟩ := results_vs_closure (by omega) hex hcl hti hrefs h hq hc
  have hAh : (hashes (reach cfg.store roots)).Nodup := reach_nodup cfg.store roots
  have hSAh := goSort_hashes_nodup clockAsc hAh
  have hsrcS : ∀ e ∈ source, e ∈ goSort clockAsc (reach cfg.store roots) := fun e he => mem_goSort.mpr (hsrc e he)
  have heq := lastNKeeping_cut_eq (N := cfg.length) hsto hasym htime hAh
    (nodup_of_hashes_nodup (WF_accepted h).resND) hsubR hsrc hcut
  have hmem := mem_lastNKeeping_of_subset cfg.length hSAh hsrcS
  have hlenK := lastNKeeping_length cfg.length source hSAh (fun _ => hashes_subset hsrcS) (by omega)
  have hslh := hSAh.sublist ((lastNKeeping_sublist cfg.length _ source).map _)
  have hkeeps := fun e he => (hmem e).mpr ⟨hsrcS e he, Or.inl he⟩
  obtain ⟨hdiff, lastE, _, hl⟩ := loadEntries_tail (fun v hv => List.mem_map_of_mem (hkeeps v hv)) hne
  unfold loadEntries
  simp only [show n > -1 by omega, if_true, ← hlen, show cfg.length > -1 by omega, heq, hdiff, List.nil_append,
    List.length_nil, List.drop_zero, hl]
  refine ⟨_, rfl, ?_⟩
  rw [newLog_entries_of_nodup lastE.logId clockId k [] hslh]
  refine ⟨rfl, hkeeps, ?_, fun x hx hns => ?_⟩
  · rw [hlenK, (goSort_perm _ _).length_eq]
  · rw [hmem x]
    exact ⟨fun ⟨_, h2⟩ => h2.resolve_left hns, fun h2 => ⟨mem_goSort.mpr hx, Or.inr h2⟩⟩

/-! ## non-vacuity: limit 2 on a five-entry forked log; two schedules cut differently, load the same -/

def e1 : Entry := { hash := [1], logId := [7], next := [], refs := [], clock := { id := [4], time := 1 } }
def e2 : Entry := { hash := [2], logId := [7], next := [[1]], refs := [], clock := { id := [4], time := 2 } }
def e3 : Entry := { hash := [3], logId := [7], next := [[2]], refs := [[1]], clock := { id := [4], time := 3 } }
def e4 : Entry := { hash := [4], logId := [7], next := [[2]], refs := [], clock := { id := [5], time := 3 } }
def e5 : Entry := { hash := [5], logId := [7], next := [[3], [4]], refs := [[2]], clock := { id := [4], time := 4 } }

def cfgL : FCfg := { store := [e1, e2, e3, e4, e5], length := 2, excluded := fun _ => false }

def runA : List FEvent :=
  [.dispatch [5], .complete [5] (some e5), .dispatch [3], .complete [3] (some e3), .dispatch [4],
   .complete [4] (some e4), .dispatch [2], .complete [2] (some e2)]
def runB : List FEvent :=
  [.dispatch [5], .complete [5] (some e5), .dispatch [4], .dispatch [3], .complete [4] (some e4),
   .complete [3] (some e3), .dispatch [2], .complete [2] (some e2)]

example : (accepted cfgL [[5]] runA).map (fun s => (s.results, decide (quiescent s))) =
    some ([e5, e3, e4], true) := by decide +kernel
example : (accepted cfgL [[5]] runB).map (fun s => (s.results, decide (quiescent s))) =
    some ([e5, e4, e3], true) := by decide +kernel
example : sortTrim (beforeAsc .lww) 2 [e5, e3, e4] = sortTrim (beforeAsc .lww) 2 (reach cfgL.store [[5]]) := by decide +kernel
example : sortTrim (beforeAsc .lww) 2 [e5, e4, e3] = [e4, e5] := by decide +kernel

example : ClosedStore cfgL [[5]] where
  rootsIn := by decide +kernel
  nextIn := by
    intro h e hg
    have he : e ∈ cfgL.store := (get?_mem hg).1
    revert he; clear hg; revert e
    decide
  undef := by decide +kernel

example : TimesIncrease cfgL := by
  intro h e c e' hg hc hg'
  have he : e ∈ cfgL.store := (get?_mem hg).1
  have he' : e' ∈ cfgL.store := (get?_mem hg').1
  have hh : e'.hash = c := (get?_mem hg').2
  subst hh
  clear hg hg'
  revert hc; revert he'; revert e'; revert he; revert e
  decide

/-- the ordering hypotheses of `load_limited_exact` hold for last-write-wins on this closure -/
example : STO (beforeAsc .lww) (· ∈ reach cfgL.store [[5]]) where
  trans := by
    have key : ∀ a ∈ reach cfgL.store [[5]], ∀ b ∈ reach cfgL.store [[5]], ∀ c ∈ reach cfgL.store [[5]],
        beforeAsc .lww a b = true → beforeAsc .lww b c = true → beforeAsc .lww a c = true := by decide +kernel
    exact fun a b c ha hb hc => key a ha b hb c hc
  total := by
    have key : ∀ a ∈ reach cfgL.store [[5]], ∀ b ∈ reach cfgL.store [[5]], a ≠ b →
        beforeAsc .lww a b = true ∨ beforeAsc .lww b a = true := by decide +kernel
    exact fun a b ha hb => key a ha b hb

example : ∀ a b, a ∈ reach cfgL.store [[5]] → b ∈ reach cfgL.store [[5]] →
    (beforeAsc .lww a b = true → beforeAsc .lww b a = false) ∧
    (a.clock.time < b.clock.time → beforeAsc .lww a b = true) := by
  have key : ∀ a ∈ reach cfgL.store [[5]], ∀ b ∈ reach cfgL.store [[5]],
      (beforeAsc .lww a b = true → beforeAsc .lww b a = false) ∧
      (a.clock.time < b.clock.time → beforeAsc .lww a b = true) := by decide +kernel
  exact fun a b ha hb => key a ha b hb

/-- references point to ancestors -/
example : ∀ h e, Anc cfgL [[5]] h → get? cfgL.store h = some e → ∀ c ∈ e.refs, Anc cfgL [[5]] c := by
  have a5 : Anc cfgL [[5]] [5] := Anc.root (by decide)
  have a3 : Anc cfgL [[5]] [3] := Anc.next (e := e5) a5 (by decide) (by decide)
  have a2 : Anc cfgL [[5]] [2] := Anc.next (e := e3) a3 (by decide) (by decide)
  have a1 : Anc cfgL [[5]] [1] := Anc.next (e := e2) a2 (by decide) (by decide)
  have key : ∀ e ∈ cfgL.store, ∀ c ∈ e.refs, c = [1] ∨ c = [2] := by decide +kernel
  intro h e _ hg c hc
  rcases key e ((get?_mem hg).1) c hc with rfl | rfl
  · exact a1
  · exact a2

/-! ## non-vacuity for `NewFromEntry`: supplied `e1` and `e5`, limit 3; one schedule delivers everything,
    another cuts `e1` and `e2` from the fetch result — the loaded log is `e1, e4, e5` both times -/

def cfgK : FCfg := { store := [e1, e2, e3, e4, e5], length := 3, excluded := fun _ => false }
def runK2 : List FEvent :=
  [.dispatch [1], .dispatch [5], .complete [5] (some e5), .complete [1] (some e1), .dispatch [4], .dispatch [3],
   .complete [4] (some e4), .complete [3] (some e3), .dispatch [2], .complete [2] (some e2)]
def runK3 : List FEvent :=
  [.dispatch [5], .complete [5] (some e5), .dispatch [3], .complete [3] (some e3), .dispatch [4],
   .complete [4] (some e4), .dispatch [1], .complete [1] (some e1), .dispatch [2], .complete [2] (some e2)]

example : (accepted cfgK [[1], [5]] runK2).map (fun s => (s.results, decide (quiescent s))) =
    some ([e5, e1, e4, e3, e2], true) := by decide +kernel
example : (accepted cfgK [[1], [5]] runK3).map (fun s => (s.results, decide (quiescent s))) =
    some ([e5, e3, e4], true) := by decide +kernel
example : (loadEntries [9] .lww [e1, e5] [e5, e1, e4, e3, e2] 3).map (·.entries) = some [e1, e4, e5] := by decide +kernel
example : (loadEntries [9] .lww [e1, e5] [e5, e3, e4] 3).map (·.entries) = some [e1, e4, e5] := by decide +kernel
example : lastNKeeping 3 (goSort clockAsc (reach cfgK.store [[1], [5]])) [e1, e5] = [e1, e4, e5] := by decide +kernel
/-- an entry supplied twice counts twice in `k` and once in the result -/
example : (loadEntries [9] .lww [e1, e5, e5] [e5, e3, e4] 2).map (·.entries) = some [e1, e4, e5] := by decide +kernel
example : cfgK.length = max 3 (([e1, e5] : List Entry).length : Int) ∧
    cfgK.length = max 2 (([e1, e5, e5] : List Entry).length : Int) := by decide +kernel
example : ∀ e ∈ [e1, e5], e ∈ reach cfgK.store [[1], [5]] := by decide +kernel
example : ∀ a ∈ reach cfgK.store [[1], [5]], ∀ b ∈ reach cfgK.store [[1], [5]],
    (a ≠ b → clockAsc a b = true ∨ clockAsc b a = true) ∧
    (clockAsc a b = true → clockAsc b a = false) ∧
    (a.clock.time < b.clock.time → clockAsc a b = true) := by decide +kernel

end Model.C10
