import Generated.GenNewLog
import Props.GenCommon
import Props.GenHeads
import Props.GenMisc
/-!
# Props.GenNewLog — what `NewLog` (log.go) computes from the entries, heads and clock of its options, translated,
is the model's `newLog`

The translation keeps the statements about `options.Clock`, `options.Heads`, `options.Entries` and the `Next` index
and leaves out the plumbing of the other options (id default, ordering default, access controller, concurrency,
codec); it checks that the returned log takes its `Entries`, `heads`, `Next` and `Clock` from exactly these.
`newLogCore_eq`: for an entry map (distinct hashes) and no clock option it returns the clock time, the heads and the
index keys of the model's `newLog`.
-/
namespace Model.SlicesGen
open Model Model.Go

theorem newLogCore_eq (id clockId : Bytes) (k : SortKind) (entries heads : List Entry)
    (hE : (hashes entries).Nodup) :
    Generated.Go.newLogCore none heads entries =
      ((newLog id clockId k entries heads).clock.time, (newLog id clockId k entries heads).heads,
       (newLog id clockId k entries heads).nextIdx) := by
  unfold Generated.Go.newLogCore newLog
  -- the test for missing heads, normalised, is the model's proposition
  simp only [Option.isSome_none, Bool.false_eq_true, if_false, maxClockTimeForEntries_eq, findHeads_eq, omFromList_eq_self hE,
    setInsert_eq_hsSet', Bool.and_eq_true, beq_iff_eq, decide_eq_true_eq, Int.natCast_eq_zero, Int.natCast_pos]

end Model.SlicesGen
