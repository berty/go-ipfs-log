import Proofs.ConcLog
/-!
# C04 under concurrency — the clock id of an appended entry is the identity in force

In the concurrent world (`Model.Conc`), for every set of programs and every schedule: the clock id of a
log is the argument of the last `SetIdentity` critical section recorded for that log (its initial id when
there is none) — a merge, bounded or not, successful or not, never changes it — and the entry created by
an `Append` critical section carries exactly that id.  The seeded change C04c (a merge re-installing a
clock id it sampled before taking the lock) breaks the first statement on the implementation; the conc
stream evaluates it as `clockIdIsWriter`.
-/
namespace Model.C04Conc
open Model Model.Conc

def lastId (init : Bytes) : List Ev → Bytes
  | [] => init
  | .wr _ (.setIdentity c) _ :: _ => c
  | _ :: t => lastId init t

theorem join_clock_id (l l' : Log) (oid : Bytes) (E H : List Entry) (size : Int) (valid : Entry → Bool)
    (h : join l oid E H size valid = .ok l') : l'.clock.id = l.clock.id := by
  rcases join_ok h with ⟨_, rfl⟩ | ⟨_, _, rfl⟩
  · rfl
  · show (joinTrim (joinMerge l E H) size).clock.id = l.clock.id
    unfold joinTrim
    split <;> rfl

theorem applyW_lastId (init : Bytes) (t : Tid) (op : WOp) (r : Regs) (evs : List Ev) {l : Log}
    (h : l.clock.id = lastId init evs) : (applyW op r l).1.clock.id = lastId init (.wr t op r :: evs) := by
  cases op with
  | setIdentity c => rfl
  | join oid size =>
    rcases applyW_join oid size r l with e | hj
    · rw [e]; exact h
    · exact (join_clock_id l _ oid _ _ size _ hj).trans h
  | _ => exact h

def IdInv (w0 w : World) : Prop := ∀ l, (w.logs l).clock.id = lastId (w0.logs l).clock.id (w.ev l)

theorem step_idInv {w0 w w' : World} {t : Tid} (I : IdInv w0 w) (hs : step w t = some w') : IdInv w0 w' := fun l => by
  cases step_effect hs l with
  | none he hl _ | acq he hl _ _ | rel he hl _ _ => rw [he, hl]; exact I l
  | wr op rest hr he hl _ => rw [he, hl]; exact applyW_lastId _ _ _ _ _ (I l)

/-- **every schedule**: the clock id of every log is the identity installed by the last completed
    `SetIdentity` on it (the initial one if none) — merges never change it -/
theorem clock_id_is_identity_in_force : ∀ (s : List Tid) (w0 w1 w : World), IdInv w0 w1 → exec w1 s = some w → IdInv w0 w :=
  fun s w0 w1 w => exec_inv (P := IdInv w0) (fun _ _ _ I h => step_idInv I h) s w1 w

theorem idInv_init {w0 : World} (hI : Init w0) : IdInv w0 w0 := by
  intro l; rw [hI.ev l]; rfl

/-- in words: from an initial world, after any schedule, an `Append` that runs its critical section next
    creates an entry whose clock id is `lastId` of the log's events so far -/
theorem appended_entry_clock_id {w0 w : World} (hI : Init w0) (s : List Tid) (h : exec w0 s = some w)
    (l : Lid) (pc : Int) (hh : Hash) (tag : Nat) (r : Regs) :
    ((applyW (.append pc hh tag) r (w.logs l)).2.out.map (·.clock.id)) =
      some (lastId (w0.logs l).clock.id (w.ev l)) := by
  rw [append_out_clock_id]
  exact congrArg some (clock_id_is_identity_in_force s w0 w0 w (idInv_init hI) h l)

/-! non-vacuity: a merge racing an identity change, then an append: the appended entry carries the new id
whichever of the two critical sections of log 0 comes first -/
def wS : World := mkWorld (fun _ => { id := [7], entries := [], heads := [], nextIdx := [], clock := { id := [1], time := 0 }, sortFn := .lww })
  (progsOfList [joinProg 0 1 [7] (-1), setIdentityProg 0 [9], appendProg 0 1 [5]])

/-- merge up to its lock request, identity change completely, merge to the end, then the append -/
def schedS : List Tid := List.replicate 10 0 ++ List.replicate 4 1 ++ List.replicate 5 0 ++ List.replicate 7 2

example : (exec wS schedS).map (fun w => ((w.thr 2).regs.out.map (·.clock.id), (w.logs 0).clock.id,
    lastId [1] (w.ev 0))) = some (some [9], [9], [9]) := by decide +kernel

end Model.C04Conc
