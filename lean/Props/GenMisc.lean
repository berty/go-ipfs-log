import Generated.GenMisc
import Props.GenCommon
import Props.C19Gen
/-!
# Props.GenMisc — `maxClockTimeForEntries`, `SetIdentity` (log.go) and `uniqueCIDs` (entry/entry.go), translated

They are the model's `maxTime`, the clock `setIdentity` installs, and `dedupHashes`, which is also the codec model's
`uniq` (`Entry.Copy`).
-/
namespace Model.SlicesGen
open Model Model.Go Model.Codec

theorem maxClockTimeForEntries_eq (es : List Entry) (d : Int) :
    Generated.Go.maxClockTimeForEntries es d = maxTime es d := by
  simp only [Generated.Go.maxClockTimeForEntries, maxTime, C19Gen.maxInt_eq]

theorem uniqueCIDs_eq (cids : List Hash) : Generated.Go.uniqueCIDs cids = dedupHashes cids [] := by
  unfold Generated.Go.uniqueCIDs
  rw [dedupHashes_eq_foldl]
  -- the set of found CIDs and the output hold the same list throughout
  refine (foldl_sim (fun (x : List Hash × List Hash) (y : List Hash) => x.1 = y ∧ x.2 = y) _ hsSet ?_ cids _ _ ⟨rfl, rfl⟩).2
  rintro ⟨found, out⟩ y c ⟨h1, h2⟩
  dsimp only at h1 h2
  subst h1 h2
  dsimp only [hsSet, setInsert]
  split <;> exact ⟨rfl, rfl⟩

theorem uniqueCIDs_eq_uniq (cids : List Hash) : Generated.Go.uniqueCIDs cids = uniq cids := by
  rw [uniqueCIDs_eq, uniq_eq_dedup]

theorem foldl_max_eq_maxTime (hs : List Entry) : ∀ (t : Int),
    hs.foldl (fun t h => max t h.clock.time) t = maxTime hs t := by
  intro t
  unfold maxTime
  congr 1
  funext t h
  exact Int.max_comm _ _

/-- `SetIdentity`, translated: the clock the model's `setIdentity` installs (whether the maximum over the heads is the
    hand-written loop or a call of `maxClockTimeForEntries`) -/
theorem setIdentity_eq (l : Log) (cid : Bytes) :
    Generated.Go.setIdentity l.heads l.clock.id l.clock.time cid =
      ((setIdentity l cid).clock.id, (setIdentity l cid).clock.time) := by
  unfold Generated.Go.setIdentity setIdentity
  simp only [C19Gen.maxInt_eq, maxClockTimeForEntries_eq, foldl_max_eq_maxTime]

end Model.SlicesGen
