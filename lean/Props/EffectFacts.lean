import Generated.Facts
/-!
# C06 / C17 — order of side effects in `Append` and `Join`, from the regenerated facts

`Generated.effectOrder` lists, in source order, the validation calls, the barrier, the block-store
write and the in-memory publications of `Append` and `Join` (`harness/cmd/extract/effects.go`).
The model assumes — and these obligations check on the code as it is:

* `Append`: the block is written (`CreateEntryWithIO`) and the access controller is asked
  (`CanAppend`) before anything is published (`Entries.Set`, `Next.Set`, `heads=`); so the store
  write sequence is the model's universe order (C17) and a denied append publishes nothing (C06).
* `Join`: every validation (`CanAppend`, `Verify`, in the worker goroutines) and the barrier `Wait`
  precede the first publication, and nothing is published from inside a goroutine; so a rejected
  merge leaves the log unchanged (C06).
* neither function removes blocks from the store (C17).
-/
namespace Model.EffectFacts

def effectsOf (f : String) : List String :=
  match Generated.effectOrder.find? (fun p => p.1 == f) with
  | some p => p.2
  | none => []

def isPublication (e : String) : Bool :=
  e == "Entries.Set" || e == "Next.Set" || e == "heads=" || e == "Entries=" || e == "Next=" ||
  e == "go:Entries.Set" || e == "go:Next.Set" || e == "go:heads=" || e == "go:Entries=" || e == "go:Next="

def beforePublication (l : List String) : List String := l.takeWhile (fun e => !isPublication e)

#eval effectsOf "Append"
#eval effectsOf "Join"

theorem append_writes_and_checks_before_publishing :
    (beforePublication (effectsOf "Append")).contains "CreateEntryWithIO" = true ∧
    (beforePublication (effectsOf "Append")).contains "CanAppend" = true ∧
    (effectsOf "Append").any isPublication = true := by decide +kernel

theorem join_validates_before_publishing :
    (beforePublication (effectsOf "Join")).contains "go:CanAppend" = true ∧
    (beforePublication (effectsOf "Join")).contains "go:Verify" = true ∧
    (beforePublication (effectsOf "Join")).contains "Wait" = true ∧
    -- no validation after the first publication, nothing published from a goroutine
    ((effectsOf "Join").dropWhile (fun e => !isPublication e)).all
      (fun e => e != "go:CanAppend" && e != "go:Verify" && e != "CanAppend" && e != "Verify" &&
                !["go:Entries.Set", "go:Next.Set", "go:heads=", "go:Entries=", "go:Next=", "go:Store.Remove"].contains e) = true ∧
    (effectsOf "Join").any isPublication = true := by decide +kernel

theorem no_block_removal :
    (effectsOf "Append" ++ effectsOf "Join").all (fun e => e != "Store.Remove" && e != "go:Store.Remove") = true := by decide +kernel

end Model.EffectFacts
