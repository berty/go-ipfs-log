import Proofs.Json
import Model.Sign
/-!
# C07 — signatures are tamper-evident over every signed field

`toBuffer` (Model.Json) is the exact byte string `entry.toBuffer` hands to the signer and the verifier
(compared byte for byte with `entry.VerifToBuffer` by the `sign` stream).  The statements:

* `toBuffer_injective` — the signed bytes determine the **signed view** of the entry: log id, payload,
  predecessor list (members and order), reference list, version, clock id, clock time, additional
  data.  Strings appear in the view as their rune-loop steps (`tokens`): every valid UTF-8 sequence
  with its bytes, and a mark for every invalid byte.  `toBuffer_eq_iff` says the view is exact.
  `toBuffer_injective_runes` is the same with strings read as rune lists (invalid byte ↦ U+FFFD).
* `decode_injective_on_valid_utf8`, `toBuffer_injective_canonical` — for entries whose strings are valid
  UTF-8 the view is the entry itself: the bytes determine every field, byte for byte.
* `tamper_detected_partial` and its per-field corollaries, `key_swap_detected`, `sig_swap_detected` —
  under the ideal-signature laws of `Model.Sign.Crypto`, verification of a signed entry fails after
  any change of the signed view, any substitution of the key, and for any signature made for other
  bytes or by another key.

**Why `_partial`.**  The full statement — "changing any payload BYTE makes verification fail" — is
false for the code as it is: `string(payload)` goes through `encoding/json`, which writes every
invalid UTF-8 byte as the same six characters backslash-ufffd.  `payload_collision` (by kernel
evaluation), `collision_verifies` and `tamper_detected_full_is_false` record the defect
(known finding `payload-invalid-utf8-collision`).  The full statement would read

    theorem tamper_detected (C : Crypto) (sk : C.SK) (h h' : Hashable) (hne : h' ≠ h) :
        verifyEntry C { signEntry C sk h with h := h' } = false

and holds when both entries are `Hashable.Canonical` (`tamper_detected_canonical`).
-/
namespace Model.C07

open Model Model.Json Model.Sign

/-- main statement: equal signed bytes ⇒ equal signed views -/
theorem toBuffer_injective {a b : Hashable} (h : toBuffer a = toBuffer b) : signedView a = signedView b :=
  toBuffer_iff.mp h

/-- the view is exact: the signed bytes are a function of it -/
theorem toBuffer_eq_iff (a b : Hashable) : toBuffer a = toBuffer b ↔ signedView a = signedView b :=
  toBuffer_iff

/-- the same with strings read back as rune lists (an invalid byte reads as U+FFFD) -/
theorem toBuffer_injective_runes {a b : Hashable} (h : toBuffer a = toBuffer b) : runeView a = runeView b :=
  runeView_of_signedView (toBuffer_injective h)

/-- one string literal: it determines the rune-loop steps of its source, and where it ends -/
theorem string_literal_injective {a b r₁ r₂ : Bytes} (h : goJsonString a ++ r₁ = goJsonString b ++ r₂) :
    tokens a = tokens b ∧ r₁ = r₂ := goJsonString_iff.mp h

/-- two VALID UTF-8 byte strings with the same rune list are equal -/
theorem decode_injective_on_valid_utf8 {a b : Bytes} (ha : validUtf8 a = true) (hb : validUtf8 b = true)
    (h : runes a = runes b) : a = b := by
  rw [← encode_runes ha, ← encode_runes hb, h]

/-- … and also with the same rune-loop steps -/
theorem tokens_injective_on_valid_utf8 {a b : Bytes} (ha : validUtf8 a = true) (hb : validUtf8 b = true)
    (h : tokens a = tokens b) : a = b := tokens_inj_of_valid ha hb h

/-- for valid UTF-8 payloads, a changed payload byte changes the signed bytes -/
theorem payload_change_changes_buffer {a b : Hashable} (ha : validUtf8 a.payload = true)
    (hb : validUtf8 b.payload = true) (hne : a.payload ≠ b.payload) : toBuffer a ≠ toBuffer b :=
  fun h => hne (tokens_inj_of_valid ha hb (congrArg SignedView.payload (toBuffer_injective h)))

/-- on canonical entries (all strings valid UTF-8, clock id made of bytes, additional data in key
    order) the signed bytes determine the whole entry -/
theorem toBuffer_injective_canonical {a b : Hashable} (ha : a.Canonical) (hb : b.Canonical)
    (h : toBuffer a = toBuffer b) : a = b := signedView_inj_canonical ha hb (toBuffer_injective h)

/-- The rejections below in one: content `h'` and key `pk` are not accepted with a signature made by
    `sk` for `h` unless `pk` is the key of `sk` and `h'` has the signed view of `h`. -/
theorem verify_sign_false (C : Crypto) (sk : C.SK) (h h' : Hashable) (pk : C.PK)
    (hne : pk ≠ C.pub sk ∨ signedView h' ≠ signedView h) :
    verifyEntry C ⟨h', pk, C.sign sk (toBuffer h)⟩ = false := by
  rw [← Bool.not_eq_true, verifyEntry, C.verify_iff]
  rintro ⟨sk', hpk, hs⟩
  obtain ⟨e1, e2⟩ := C.sign_inj _ _ _ _ hs
  exact hne.elim (· (hpk.symm.trans e1.symm)) (· (toBuffer_injective e2).symm)

/-- what `CreateEntryWithIO` produces verifies (the hypotheses below are not vacuous) -/
theorem signed_entry_verifies (C : Crypto) (sk : C.SK) (h : Hashable) : verifyEntry C (signEntry C sk h) = true :=
  (C.verify_iff _ _ _).mpr ⟨sk, rfl, rfl⟩

/-- Replacing the signed content by content with a different signed view — any change of log id,
    payload steps, predecessor list (members or order), reference list, version, clock id, clock time
    or additional data — makes verification fail. -/
theorem tamper_detected_partial (C : Crypto) (sk : C.SK) (h h' : Hashable)
    (hne : signedView h' ≠ signedView h) : verifyEntry C { signEntry C sk h with h := h' } = false :=
  verify_sign_false C sk h h' _ (.inr hne)

/-- the full statement on canonical entries: ANY change of the entry is detected -/
theorem tamper_detected_canonical (C : Crypto) (sk : C.SK) (h h' : Hashable) (hc : h.Canonical)
    (hc' : h'.Canonical) (hne : h' ≠ h) : verifyEntry C { signEntry C sk h with h := h' } = false :=
  tamper_detected_partial C sk h h' (fun hv => hne (signedView_inj_canonical hc' hc hv))

/-- per field: each component of the signed view is covered -/
theorem tamper_id_detected (C : Crypto) (sk : C.SK) (h h' : Hashable) (hne : tokens h'.id ≠ tokens h.id) :
    verifyEntry C { signEntry C sk h with h := h' } = false :=
  tamper_detected_partial C sk h h' (fun hv => hne (congrArg SignedView.id hv))

theorem tamper_payload_detected (C : Crypto) (sk : C.SK) (h h' : Hashable)
    (hne : tokens h'.payload ≠ tokens h.payload) : verifyEntry C { signEntry C sk h with h := h' } = false :=
  tamper_detected_partial C sk h h' (fun hv => hne (congrArg SignedView.payload hv))

/-- a payload change between valid UTF-8 payloads is always detected -/
theorem tamper_payload_detected_valid_utf8 (C : Crypto) (sk : C.SK) (h h' : Hashable)
    (hv : validUtf8 h.payload = true) (hv' : validUtf8 h'.payload = true) (hne : h'.payload ≠ h.payload) :
    verifyEntry C { signEntry C sk h with h := h' } = false :=
  tamper_payload_detected C sk h h' (fun ht => hne (tokens_inj_of_valid hv' hv ht))

/-- predecessor list: membership and order (CID strings are ASCII, so steps = bytes) -/
theorem tamper_next_detected (C : Crypto) (sk : C.SK) (h h' : Hashable)
    (hv : ∀ x ∈ h.next, validUtf8 x = true) (hv' : ∀ x ∈ h'.next, validUtf8 x = true) (hne : h'.next ≠ h.next) :
    verifyEntry C { signEntry C sk h with h := h' } = false :=
  tamper_detected_partial C sk h h' (fun hv'' =>
    hne (map_tokens_inj_valid (congrArg SignedView.next hv'') hv' hv))

theorem tamper_refs_detected (C : Crypto) (sk : C.SK) (h h' : Hashable)
    (hv : ∀ x ∈ h.refs, validUtf8 x = true) (hv' : ∀ x ∈ h'.refs, validUtf8 x = true) (hne : h'.refs ≠ h.refs) :
    verifyEntry C { signEntry C sk h with h := h' } = false :=
  tamper_detected_partial C sk h h' (fun hv'' =>
    hne (map_tokens_inj_valid (congrArg SignedView.refs hv'') hv' hv))

theorem tamper_version_detected (C : Crypto) (sk : C.SK) (h h' : Hashable) (hne : h'.v ≠ h.v) :
    verifyEntry C { signEntry C sk h with h := h' } = false :=
  tamper_detected_partial C sk h h' (fun hv => hne (congrArg SignedView.v hv))

theorem tamper_clock_time_detected (C : Crypto) (sk : C.SK) (h h' : Hashable) (hne : h'.clockTime ≠ h.clockTime) :
    verifyEntry C { signEntry C sk h with h := h' } = false :=
  tamper_detected_partial C sk h h' (fun hv => hne (congrArg SignedView.clockTime hv))

theorem tamper_clock_id_detected (C : Crypto) (sk : C.SK) (h h' : Hashable)
    (hb : ∀ x ∈ h.clockId, x < 256) (hb' : ∀ x ∈ h'.clockId, x < 256) (hne : h'.clockId ≠ h.clockId) :
    verifyEntry C { signEntry C sk h with h := h' } = false :=
  tamper_detected_partial C sk h h' (fun hv => hne (map_mod_inj (congrArg SignedView.clockId hv) hb' hb))

/-- substituting a different key makes verification fail -/
theorem key_swap_detected (C : Crypto) (sk : C.SK) (h : Hashable) (pk' : C.PK) (hne : pk' ≠ C.pub sk) :
    verifyEntry C { signEntry C sk h with key := pk' } = false :=
  verify_sign_false C sk h h pk' (.inl hne)

/-- substituting a signature that was made by another key, or for an entry with a different signed
    view (e.g. the signature of another entry of the same writer), makes verification fail -/
theorem sig_swap_detected (C : Crypto) (sk sk' : C.SK) (h h'' : Hashable)
    (hne : C.pub sk' ≠ C.pub sk ∨ signedView h'' ≠ signedView h) :
    verifyEntry C { signEntry C sk h with sig := C.sign sk' (toBuffer h'') } = false :=
  verify_sign_false C sk' h'' h _ (hne.imp Ne.symm Ne.symm)

/-- a value that nobody holding the key produced for these bytes is rejected (this is the law itself;
    ECDSA's malleability means a mauled copy of a genuine signature is NOT covered) -/
theorem foreign_sig_rejected (C : Crypto) (sk : C.SK) (h : Hashable) (s : C.Sig)
    (hs : ¬ ∃ sk', C.pub sk' = C.pub sk ∧ s = C.sign sk' (toBuffer h)) :
    verifyEntry C { signEntry C sk h with sig := s } = false := by
  rw [← Bool.not_eq_true]
  exact fun hv => hs ((C.verify_iff _ _ _).mp hv)

def p₁ : Hashable :=
  { id := [65], payload := [0x61, 0xff, 0x62], next := [], refs := [], v := 2, clockId := [4], clockTime := 1 }
def p₂ : Hashable := { p₁ with payload := [0x61, 0xfe, 0x62] }

/-- two entries that differ in a payload byte and have the same signed bytes (kernel evaluation) -/
theorem payload_collision : toBuffer p₁ = toBuffer p₂ ∧ p₁ ≠ p₂ := by decide

example : toBuffer p₁ = toBuffer p₂ ∧ p₁ ≠ p₂ := payload_collision

/-- consequently the tampered entry verifies under the signature of the original, for every scheme -/
theorem collision_verifies (C : Crypto) (sk : C.SK) :
    verifyEntry C { signEntry C sk p₁ with h := p₂ } = true := by
  show C.verify _ (toBuffer p₂) _ = true
  rw [← payload_collision.1]
  exact signed_entry_verifies C sk p₁

/-- the full statement (every change of the entry is detected) is false -/
theorem tamper_detected_full_is_false :
    ¬ (∀ (C : Crypto) (sk : C.SK) (h h' : Hashable), h' ≠ h →
        verifyEntry C { signEntry C sk h with h := h' } = false) := by
  intro hall
  have h := hall toyCrypto (0 : Nat) p₁ p₂ (fun e => payload_collision.2 e.symm)
  rw [collision_verifies toyCrypto (0 : Nat)] at h
  cases h

/-- exactly which payload substitutions go unnoticed: those with the same rune-loop steps, i.e. the
    two payloads differ only inside bytes that the UTF-8 decoder classifies as invalid -/
theorem payload_collision_iff (h : Hashable) (q : Bytes) :
    toBuffer { h with payload := q } = toBuffer h ↔ tokens q = tokens h.payload := by
  rw [toBuffer_eq_iff]
  simp only [signedView, SignedView.mk.injEq, and_true, true_and]

/-- the ideal-signature laws are satisfiable -/
example : Crypto := toyCrypto

/-- a canonical entry with multi-byte payload, predecessors and additional data -/
example : ({ id := [0xC3, 0xA9], payload := [0xE2, 0x82, 0xAC, 0x0A], next := [[81, 109]], refs := [[81, 109], [81, 110]],
             v := 2, clockId := [4, 255], clockTime := -3, additional := [([97], [49]), ([98], [50])] } : Hashable).Canonical := by
  unfold Hashable.Canonical
  decide

/-- views do differ: the hypothesis of `tamper_detected_partial` is met by a one-byte payload change -/
example : signedView { p₁ with payload := [0x61, 0x63, 0x62] } ≠ signedView p₁ := by decide +kernel

end Model.C07
