import Proofs.Cmp
/-!
# C19 — the ordering functions are lawful orders that respect causality

Statements about the exact transcriptions `cmpHash` (`SortByEntryHash`), `cmpLWW` (`LastWriteWins`),
`cmpFWW` (`FirstWriteWins`), `clockCompare` (`LamportClock.Compare`) and `goSort` (`sorting.Sort`), for
all entries: any clock times (unbounded integers — the repaired comparison never subtracts, so no
64-bit wrap-around can occur), any clock ids, any hashes.
-/
namespace Model.C19

/-- hash-tiebreak ordering: irreflexive -/
theorem hash_irreflexive (a : Entry) : cmpHash a a = 0 := cmpHash_self a

/-- hash-tiebreak ordering: antisymmetric (the sign flips when the arguments are swapped) -/
theorem hash_antisymmetric (a b : Entry) : cmpHash a b = - cmpHash b a := cmpHash_swap a b

/-- hash-tiebreak ordering: transitive -/
theorem hash_transitive (a b c : Entry) (h1 : cmpHash a b > 0) (h2 : cmpHash b c > 0) : cmpHash a c > 0 :=
  cmpHash_trans h1 h2

/-- hash-tiebreak ordering: total on distinct entries (distinct entries have distinct hashes) -/
theorem hash_total (a b : Entry) (h : a.hash ≠ b.hash) : cmpHash a b ≠ 0 :=
  fun h0 => h (cmpHash_eq_zero h0)

/-- default ordering: never 0, antisymmetric, transitive whenever clock id/time pairs are distinct -/
theorem lww_total (a b : Entry) : cmpLWW a b ≠ 0 := cmpLWW_ne_zero a b

theorem lww_antisymmetric (a b : Entry) (h : keyNe a b) : cmpLWW a b = - cmpLWW b a := cmpLWW_swap h

theorem lww_transitive (a b c : Entry) (hab : keyNe a b) (hbc : keyNe b c) (hac : keyNe a c)
    (h1 : cmpLWW a b > 0) (h2 : cmpLWW b c > 0) : cmpLWW a c > 0 :=
  cmpLWW_trans hab hbc hac h1 h2

/-- with a tie the default ordering is *not* antisymmetric (it answers 1 both ways): this is why
    C01/C03/C05 ask for distinct clock id/time pairs -/
theorem lww_tie_not_antisymmetric (a b : Entry) (hi : a.clock.id = b.clock.id) (ht : a.clock.time = b.clock.time) :
    cmpLWW a b = 1 ∧ cmpLWW b a = 1 := by
  simp [cmpLWW, clockCompare, hi, ht, cmpBytes_refl]

/-- clock comparison: antisymmetric and transitive -/
theorem clock_antisymmetric (a b : Clock) : clockCompare a b = - clockCompare b a := clockCompare_swap a b

theorem clock_transitive (a b c : Clock) (h1 : clockCompare a b > 0) (h2 : clockCompare b c > 0) :
    clockCompare a c > 0 := clockCompare_trans h1 h2

/-- all of them order an entry after every entry with a smaller clock time -/
theorem time_respected (a b : Entry) (h : a.clock.time < b.clock.time) :
    cmpHash a b < 0 ∧ cmpLWW a b < 0 ∧ clockCompare a.clock b.clock < 0 := by
  have hne : ¬ a.clock.time = b.clock.time := by omega
  simp [cmpHash, cmpLWW, clockCompare, hne, h]

/-- first-write-wins is the exact reverse of last-write-wins -/
theorem fww_reverse (a b : Entry) : cmpFWW a b = - cmpLWW a b := by
  unfold cmpFWW
  omega

/-- sorting is a permutation of its input, for every comparator -/
theorem sort_permutation (lt : Entry → Entry → Bool) (l : List Entry) : (goSort lt l).Perm l := goSort_perm lt l

/-- sorting with the hash-tiebreak ordering gives a sorted list and does not depend on the order of
    the input (entries with distinct hashes) -/
theorem sort_hash_sorted (l : List Entry) (hd : ∀ a ∈ l, ∀ b ∈ l, a ≠ b → a.hash ≠ b.hash) (hn : l.Nodup) :
    (goSort ltHash l).Pairwise (fun a b => ltHash a b = true) :=
  goSort_sorted (ltHash_STO l hd) l (fun _ h => h) hn

theorem sort_hash_deterministic (l₁ l₂ : List Entry) (hd : ∀ a ∈ l₁, ∀ b ∈ l₁, a ≠ b → a.hash ≠ b.hash)
    (hn : l₁.Nodup) (hp : l₁.Perm l₂) : goSort ltHash l₁ = goSort ltHash l₂ :=
  goSort_perm_invariant (ltHash_STO l₁ hd) (fun _ _ _ _ _ h => ltHash_asymm h) (fun _ h => h) hn hp

/-- the same for the default ordering when no two entries tie -/
theorem sort_lww_sorted (l : List Entry) (hd : ∀ a ∈ l, ∀ b ∈ l, a ≠ b → keyNe a b) (hn : l.Nodup) :
    (goSort ltLWW l).Pairwise (fun a b => ltLWW a b = true) :=
  goSort_sorted (ltLWW_STO l hd) l (fun _ h => h) hn

theorem sort_lww_deterministic (l₁ l₂ : List Entry) (hd : ∀ a ∈ l₁, ∀ b ∈ l₁, a ≠ b → keyNe a b)
    (hn : l₁.Nodup) (hp : l₁.Perm l₂) : goSort ltLWW l₁ = goSort ltLWW l₂ :=
  goSort_perm_invariant (ltLWW_STO l₁ hd) (fun a b ha hb hne h => ltLWW_asymm (hd a ha b hb hne) h) (fun _ h => h) hn hp

/-! non-vacuity: concrete entries meeting the hypotheses -/
def e1 : Entry := { hash := [1], logId := [], next := [], refs := [], clock := { id := [4], time := 1 } }
def e2 : Entry := { hash := [2], logId := [], next := [], refs := [], clock := { id := [4], time := 2 } }
def e3 : Entry := { hash := [3], logId := [], next := [], refs := [], clock := { id := [5], time := 2 } }
example : keyNe e1 e2 ∧ keyNe e2 e3 ∧ e1.hash ≠ e2.hash := by unfold keyNe; decide
example : cmpLWW e3 e2 > 0 ∧ cmpLWW e2 e1 > 0 ∧ cmpHash e3 e2 > 0 := by decide +kernel
example : goSort ltLWW [e1, e3, e2] = [e3, e2, e1] := by decide +kernel

end Model.C19
