import Props.GenAppend
import Proofs.Append
/-!
# Props.GenCapstoneAppend — C04, C02, C05 statements about the TRANSLATED `Append`

`translated_append_plan`: on a replica that satisfies the structural invariant, under an ordering that is a strict total
order on its entries, the translated plan of `Append` (with the model's fuel) returns — no error — predecessors that are
exactly the hashes of the heads, each once, the writer's clock id, and a clock time above that of every entry of the
log (C04); `appendPlan_of_inv` is `appendPlan_eq` with its length hypothesis discharged.  `translated_append`: plan and tail
composed — for every pointer count and a fresh CID, the entry `createdEntry` makes of the plan's output is, after the
translated tail, the single head; every old entry is still there; `Inv` holds over `U ++ [entry]` (C02, C04, C05).
-/
namespace Model.Capstone
open Model Model.Go Model.SlicesGen

theorem appendPlan_of_inv {U : List Entry} {l : Log} (I : Inv U l) (ho : OrderOk l.sortFn l.entries)
    (hE : ∀ e ∈ l.entries, e.hash ≠ []) (pcOpt : Int) :
    Generated.Go.appendPlan (traverseFuel l.entries (sortedHeads l)) l.entries (before l.sortFn) l.heads
        l.clock.id l.clock.time pcOpt =
      some (planNextRaw l, planRefsRaw l pcOpt, l.clock.id, max l.clock.time (maxTime (sortedHeads l) 0) + 1) := by
  refine appendPlan_eq l pcOpt hE (fun e he => hE e (I.headsIn e he)) ?_
  have C := ctxG_of_inv I ho
  have hin : ∀ r ∈ sortedHeads l, r ∈ l.entries := fun r hr => I.headsIn r (mem_goSort.mp (mem_omFromList hr))
  -- the bounded traversal is a prefix of the full one, whose elements are distinct entries of the log
  obtain ⟨t, ht⟩ := traverseG_prefix l.entries (before l.sortFn) (sortedHeads l)
    (max (if pcOpt ≠ 0 then pcOpt else 1) (sortedHeads l).length) none
  have h1 := List.Nodup.length_le_of_subset (traverse_general C hin).2.1 (traverseG_subset hin)
  rw [ht, List.length_append] at h1
  unfold traverseFuel
  omega

theorem translated_append_plan {U : List Entry} {l : Log} (I : Inv U l) (ho : OrderOk l.sortFn l.entries)
    (hE : ∀ e ∈ l.entries, e.hash ≠ []) (pcOpt : Int) :
    ∃ (next refs : List Hash) (t : Int),
      Generated.Go.appendPlan (traverseFuel l.entries (sortedHeads l)) l.entries (before l.sortFn) l.heads
        l.clock.id l.clock.time pcOpt = some (next, refs, l.clock.id, t) ∧
      next.Nodup ∧ (∀ n, n ∈ next ↔ n ∈ hashes l.heads) ∧ (∀ x ∈ l.entries, x.clock.time < t) :=
  ⟨_, _, _, appendPlan_of_inv I ho hE pcOpt, (List.reverse_perm _).nodup_iff.mpr (sortedHeads_nodup l),
    fun _ => List.mem_reverse.trans mem_hashes_sortedHeads, appendPlan_time_gt I pcOpt⟩

/-- the entry `CreateEntryWithIO` makes of the plan (with the CID `h` of its block): the log's id, the two lists
    de-duplicated by `Entry.Copy` — the translated `uniqueCIDs` — and the planned clock -/
def createdEntry (l : Log) (h : Hash) (tag : Nat) (next refs : List Hash) (t : Int) : Entry :=
  { hash := h, logId := l.id, next := Generated.Go.uniqueCIDs next, refs := Generated.Go.uniqueCIDs refs, clock := ⟨l.clock.id, t⟩, tag := tag }

/-- **the whole of `Append` on the translated code** (C04, C02, C05) -/
theorem translated_append {U : List Entry} {l : Log} (I : Inv U l) (ho : OrderOk l.sortFn l.entries)
    (hE : ∀ e ∈ l.entries, e.hash ≠ []) (pcOpt : Int) (h : Hash) (tag : Nat) (hfresh : h ∉ hashes U) :
    ∃ (next refs : List Hash) (t : Int) (E' : List Entry) (N' : List Hash) (H' : List Entry),
      Generated.Go.appendPlan (traverseFuel l.entries (sortedHeads l)) l.entries (before l.sortFn) l.heads
        l.clock.id l.clock.time pcOpt = some (next, refs, l.clock.id, t) ∧
      Generated.Go.appendTail l.entries l.nextIdx l.heads (createdEntry l h tag next refs t) next = some (E', N', H') ∧
      H' = [createdEntry l h tag next refs t] ∧
      (∀ x ∈ l.entries, x ∈ E') ∧
      Inv (U ++ [createdEntry l h tag next refs t])
        { l with entries := E', nextIdx := N', heads := H', clock := ⟨l.clock.id, t⟩ } := by
  have he : createdEntry l h tag (planNextRaw l) (planRefsRaw l pcOpt) (max l.clock.time (maxTime (sortedHeads l) 0) + 1) =
      (append l pcOpt h tag).1 := by
    unfold createdEntry
    simp only [uniqueCIDs_eq]
    rfl
  refine ⟨_, _, _, _, _, _, appendPlan_of_inv I ho hE pcOpt, appendTail_eq l _ (planNextRaw l) (congrArg Entry.next he),
    rfl, fun x hx => subset_omSet hx, ?_⟩
  rw [he]
  exact inv_append I pcOpt h tag hfresh

end Model.Capstone
