import Props.C13
import Proofs.ConcJoin
/-!
# C14 — merging from a live log: consistent snapshot, no deadlock

`Join(dst ← src)` reads the source's heads (instant `a`), then its entries (instant `b ≥ a`), each
under the SOURCE's read lock which is released again, and only then takes its own write lock
(`Model.Conc.joinProg`).  Instants are counted in events of the source log: `past init evs n` is the
state of the log after its first `n` events, a state the source really had during the execution.

In every interleaving the merge works with `heads (past a)` and `entries (past b)` (`join_reads_ordered`).  On such
a pair the sequential `join` adds exactly the source state at `a` (`join_snapshot`, `join_result_in_union`,
`join_includes_snapshot`; with the first: `join_sees_snapshot`); on ANY pair it leaves every head an entry
(`join_heads_are_entries_any`, hence `heads_are_entries_every_schedule`).  Merges in any pattern never deadlock and
end after a bounded number of moves (`cross_join_deadlock_free`, `join_terminates`).

The `example`s: the hypotheses are satisfiable; a bounded merge trimming the source between the two
reads of another merge; counter-schedules for the order of the reads before the repair.
-/
namespace Model.C14
open Model Model.Conc

/-- READS ORDERED.  Thread `t` runs `Join(dst ← src)`.  Whenever its critical section has been
    executed (`wr t op r` is among the events of some log), it was on `dst`, and the registers it
    used hold the heads of the source after `a` events and the entries of the source after `b ≥ a`
    events; if the source never loses entries, the entries at `a` are among those read. -/
theorem join_reads_ordered (w0 : World) (hI : Init w0)
    (hr : ∀ t, (w0.thr t).regs.hsAt = none ∧ (w0.thr t).regs.esAt = none)
    (t : Tid) (dst src : Lid) (id : Bytes) (size : Int)
    (hp : (w0.thr t).rest = joinProg dst src id size)
    (s : List Tid) (l : Lid) (op : WOp) (r : Regs) (hev : Ev.wr t op r ∈ (run w0 s).ev l) :
    l = dst ∧ op = .join id size ∧
    ∃ a b, a ≤ b ∧ b ≤ ((run w0 s).ev src).length ∧
      r.hs = (past (w0.logs src) ((run w0 s).ev src) a).heads ∧
      r.es = (past (w0.logs src) ((run w0 s).ev src) b).entries ∧
      ((∀ u op' r', Ev.wr u op' r' ∈ (run w0 s).ev src → op'.unbounded) →
        ∀ x ∈ (past (w0.logs src) ((run w0 s).ev src) a).entries, x ∈ r.es) := by
  -- `hr` is not needed: `reads_ordered` follows `hs` and `es` themselves, not the ghost positions
  have hw := (run_good hI s).evs l t op r hev
  rw [hp] at hw
  have hlo : l = dst ∧ op = .join id size := by simpa [joinProg] using hw
  obtain ⟨a, b, hab, hble, hhs, hes⟩ := reads_ordered (src := src) hI (by simp [hp, joinProg, readsThenWrites]) s hev
  exact ⟨hlo.1, hlo.2, a, b, hab, hble, hhs, hes, fun hunb x hx => hes ▸ past_grows _ _ hunb hab hble x hx⟩

/-- SNAPSHOT (sequential core).  Heads `H1` of a source state with entries `E1` (closed under `next`,
    heads among the entries), entries `E2 ⊇ E1` read later (hashes unique): every head read is among
    the entries read, and whatever `difference` selects for ANY destination is an entry of the
    earlier state `E1` that the destination does not have. -/
theorem join_snapshot {E1 E2 H1 : List Entry} (hn : NodupH E2) (hsub : ∀ e ∈ E1, e ∈ E2)
    (hcl : Closed E1) (hheads : ∀ x ∈ H1, x ∈ E1) (dest : Log) :
    (∀ x ∈ H1, x ∈ E2) ∧
    ∀ x ∈ difference E2 H1 dest, x ∈ E1 ∧ x.hash ∉ hashes dest.entries :=
  ⟨fun x hx => hsub x (hheads x hx), fun _ hx => difference_in_snapshot hn hsub hcl hheads hx⟩

/-- hence an unbounded merge that succeeds yields an entry set between `dest` and
    `dest ∪ E1`, and keeps hashes unique -/
theorem join_result_in_union {E1 E2 H1 : List Entry} (hn : NodupH E2) (hsub : ∀ e ∈ E1, e ∈ E2)
    (hcl : Closed E1) (hheads : ∀ x ∈ H1, x ∈ E1) (dest dest' : Log) (otherId : Bytes) (size : Int)
    (valid : Entry → Bool) (hs : ¬ size > -1) (hj : join dest otherId E2 H1 size valid = .ok dest') :
    (∀ x ∈ dest.entries, x ∈ dest'.entries) ∧
    (∀ x ∈ dest'.entries, x ∈ dest.entries ∨ x ∈ E1) ∧
    (NodupH dest.entries → NodupH dest'.entries) := by
  refine ⟨join_grows hs hj, ?_, fun h => join_nodupH h hj⟩
  intro x hx
  rcases join_from hs hj x hx with h | h
  · exact Or.inl h
  · exact Or.inr (difference_in_snapshot hn hsub hcl hheads h).1

/-- INCLUDES THE SNAPSHOT.  With the heads `H1` of the source state `E1` (closed, covered by its heads,
    same log id) and the entries `E2 ⊇ E1` read later, a successful unbounded merge into a closed
    destination contains (by hash) every entry of `E1`.  `hcons` is content addressing: entries
    with equal hashes name the same predecessors. -/
theorem join_includes_snapshot {E1 E2 H1 : List Entry} (hn : NodupH E2) (hsub : ∀ e ∈ E1, e ∈ E2)
    (hcl : Closed E1) (hheads : ∀ x ∈ H1, x ∈ E1)
    (hcov : ∀ x ∈ E1, ∃ hd ∈ H1, Anc E1 x.hash hd.hash)
    (dest dest' : Log) (size : Int) (valid : Entry → Bool)
    (hid : ∀ e ∈ E1, (e.logId == dest.id) = true)
    (hdcl : Closed dest.entries)
    (hcons : ∀ a ∈ E2, ∀ b ∈ dest.entries, a.hash = b.hash → a.next = b.next)
    (hs : ¬ size > -1) (hj : join dest dest.id E2 H1 size valid = .ok dest') :
    (∀ x ∈ E1, x.hash ∈ hashes dest'.entries) ∧ (∀ x ∈ dest.entries, x ∈ dest'.entries) := by
  -- `hcl`, `hheads` are not needed: a path of `Anc E1` runs through entries of `E1` by definition
  refine ⟨fun x hx => ?_, join_grows hs hj⟩
  rw [join_entries hs hj, if_pos rfl]
  rcases difference_covers hn hsub hcov hid hdcl hcons x hx with h | h
  · obtain ⟨y, hy, hyx⟩ := List.mem_map.mp h
    exact List.mem_map.mpr ⟨y, foldl_omSet_subset _ _ _ hy, hyx⟩
  · exact hash_mem_foldl_omSet _ _ h

/-- EVERY HEAD OF THE RESULT IS AN ENTRY OF THE RESULT — for **any** pair (entries, heads) read from
    the source, consistent or not (also a source that a size-bounded merge trimmed between the two reads,
    so that its old head is no longer among its entries), any size bound and any validity predicate.
    This is the unconditional form that the repaired head filter of `Join` gives. -/
theorem join_heads_are_entries_any (dest dest' : Log) (otherId : Bytes) (E2 H1 : List Entry) (size : Int)
    (valid : Entry → Bool) (hdh : ∀ x ∈ dest.heads, x.hash ∈ hashes dest.entries)
    (hj : join dest otherId E2 H1 size valid = .ok dest') :
    ∀ x ∈ dest'.heads, x.hash ∈ hashes dest'.entries := by
  rcases join_ok hj with ⟨_, rfl⟩ | ⟨_, _, rfl⟩
  · exact hdh
  intro x (hx : x ∈ (joinTrim (joinMerge dest E2 H1) size).heads)
  show x.hash ∈ hashes (joinTrim (joinMerge dest E2 H1) size).entries
  by_cases hs : size > -1
  · exact mem_hashes.mpr ⟨x, joinTrim_heads_held _ hs x hx, rfl⟩
  · -- untrimmed: the head filter of the merge keeps only keys of the merged entries
    rw [joinTrim_of_not _ hs] at hx ⊢
    exact has_iff_mem_hashes.mp (joinMerge_heads_has hx)

/-- EVERY HEAD OF THE RESULT IS AN ENTRY OF THE RESULT (by hash), when the heads read from the
    source are among the entries read from it (`join_snapshot`) and the destination's own heads were
    entries. -/
theorem join_heads_are_entries {E2 H1 : List Entry} (hn : NodupH E2) (hheads : ∀ x ∈ H1, x ∈ E2)
    (dest dest' : Log) (size : Int) (valid : Entry → Bool)
    (hid : ∀ e ∈ H1, (e.logId == dest.id) = true)
    (hdh : ∀ x ∈ dest.heads, x ∈ dest.entries)
    (hs : ¬ size > -1) (hj : join dest dest.id E2 H1 size valid = .ok dest') :
    ∀ x ∈ dest'.heads, x.hash ∈ hashes dest'.entries :=
  -- the unconditional form needs none of `hn`, `hheads`, `hid`, `hs`
  join_heads_are_entries_any dest dest' dest.id E2 H1 size valid
    (fun x hx => List.mem_map.mpr ⟨x, hdh x hx, rfl⟩) hj

/-- SNAPSHOT in the concurrent world: `join_reads_ordered` and `join_snapshot` combined.  `hsrc` is the structural
    guarantee (C02/C03) for the states of the source, `hunb` says the source only grows. -/
theorem join_sees_snapshot (w0 : World) (hI : Init w0)
    (hr : ∀ t, (w0.thr t).regs.hsAt = none ∧ (w0.thr t).regs.esAt = none)
    (t : Tid) (dst src : Lid) (id : Bytes) (size : Int)
    (hp : (w0.thr t).rest = joinProg dst src id size)
    (s : List Tid) (l : Lid) (op : WOp) (r : Regs) (hev : Ev.wr t op r ∈ (run w0 s).ev l)
    (hnod : NodupH (w0.logs src).entries)
    (hunb : ∀ u op' r', Ev.wr u op' r' ∈ (run w0 s).ev src → op'.unbounded)
    (hsrc : ∀ n, Closed (past (w0.logs src) ((run w0 s).ev src) n).entries ∧
      ∀ x ∈ (past (w0.logs src) ((run w0 s).ev src) n).heads,
        x ∈ (past (w0.logs src) ((run w0 s).ev src) n).entries) :
    ∃ a, a ≤ ((run w0 s).ev src).length ∧
      r.hs = (past (w0.logs src) ((run w0 s).ev src) a).heads ∧
      (∀ x ∈ r.hs, x ∈ r.es) ∧
      ∀ dest : Log, ∀ x ∈ difference r.es r.hs dest,
        x ∈ (past (w0.logs src) ((run w0 s).ev src) a).entries ∧ x.hash ∉ hashes dest.entries := by
  obtain ⟨_, _, a, b, hab, hb, hhs, hes, hsub⟩ := join_reads_ordered w0 hI hr t dst src id size hp s l op r hev
  have hsnap := join_snapshot (hes ▸ replay_nodupH hnod _) (hsub hunb) (hsrc a).1 (hsrc a).2
  exact ⟨a, Nat.le_trans hab hb, hhs, hhs ▸ (hsnap default).1, fun dest => hhs ▸ (hsnap dest).2⟩

def HeadsIn (w : World) : Prop := ∀ l, ∀ x ∈ (w.logs l).heads, x.hash ∈ hashes (w.logs l).entries

theorem applyW_headsIn (op : WOp) (r : Regs) (l : Log) (h : ∀ x ∈ l.heads, x.hash ∈ hashes l.entries) :
    ∀ x ∈ (applyW op r l).1.heads, x.hash ∈ hashes (applyW op r l).1.entries := by
  cases op with
  | append pc hh tag =>
    intro x hx
    cases List.mem_singleton.mp (append_snd_heads l pc hh tag ▸ hx)
    exact append_hash_mem l pc hh tag
  | join oid size =>
    rcases applyW_join oid size r l with e | hj
    · rwa [e]
    · exact join_heads_are_entries_any l _ oid r.es r.hs size _ h hj
  | _ => exact h

/-- **in the concurrent world, for every set of programs and every schedule** (merges racing appends,
    size-bounded merges trimming the source between the two reads of another merge, cross merges, …):
    every head of every log is an entry of that log, at every instant -/
theorem heads_are_entries_every_schedule : ∀ (s : List Tid) (w0 w : World), exec w0 s = some w → HeadsIn w0 → HeadsIn w :=
  fun s w0 w h h0 => exec_inv (P := HeadsIn)
    (fun _ _ _ hp hs => step_logs_inv (P := fun l => ∀ x ∈ l.heads, x.hash ∈ hashes l.entries)
      (fun _ _ op _ r log => applyW_headsIn op r log) hp hs) s w0 w h0 h

/-- CROSS JOINS: any number of logs merging each other in any pattern (A←B ‖ B←A, cycles, …)
    together with any other API calls: in every reachable state some unfinished call can move -/
theorem cross_join_deadlock_free (logs : Lid → Log) (progs : Tid → List Instr)
    (h : ∀ t, C13.ApiProg (progs t) ∨ progs t = []) (s : List Tid)
    (hu : ∃ t, finished (run (mkWorld logs progs) s) t = false) :
    ∃ t w', step (run (mkWorld logs progs) s) t = some w' :=
  C13.deadlock_free _ (C13.api_world_init logs progs h) s hu

/-- a merge takes at most 30 moves (15 instructions, a `Lock()` may announce itself first) -/
theorem join_terminates (w0 w' : World) (s : List Tid) (h : exec w0 s = some w') (t : Tid)
    (dst src : Lid) (id : Bytes) (size : Int) (hp : (w0.thr t).rest = joinProg dst src id size) :
    s.count t ≤ 30 := by
  have := C13.bounded_moves w0 w' s h t
  rw [hp] at this
  simpa [joinProg] using this

def wJ : World := mkWorld (fun _ => C13.log0)
  (progsOfList [joinProg 0 1 [7] (-1), appendProg 1 1 [1], appendProg 1 1 [2]])

theorem wJ_init : Init wJ :=
  C13.api_world_init _ _ (fun t => by
    match t with
    | 0 => exact Or.inl (.join 0 1 [7] (-1))
    | 1 => exact Or.inl (.append 1 1 [1] 0)
    | 2 => exact Or.inl (.append 1 1 [2] 0)
    | _ + 3 => exact Or.inr rfl)

/-- first append; the merge reads the heads; second append; the merge reads the entries and merges -/
def schedJ : List Tid :=
  [1, 1, 1, 1, 1, 1, 1,  0, 0, 0, 0, 0, 0,  2, 2, 2, 2, 2, 2, 2,  0, 0, 0, 0, 0, 0, 0, 0, 0]

example : ∀ t, t < 3 → finished (run wJ schedJ) t = true := by decide +kernel

def evRegs : List Ev → List Regs
  | [] => []
  | .wr _ _ r :: t => r :: evRegs t
  | _ :: t => evRegs t

example : (evRegs ((run wJ schedJ).ev 0)).map (fun r => hashes r.hs) = [[[1]]] ∧
    (evRegs ((run wJ schedJ).ev 0)).map (fun r => hashes r.es) = [[[1], [2]]] ∧
    (evRegs ((run wJ schedJ).ev 0)).map (fun r => r.hsAt) = [some (1, 3)] ∧
    (evRegs ((run wJ schedJ).ev 0)).map (fun r => r.esAt) = [some (1, 6)] := by
  decide

/-- the result is the union with the source as it was when the heads were read: `e2`, appended in between, is not
    dragged in, and every head is an entry -/
example : hashes ((run wJ schedJ).logs 0).entries = [[1]] ∧ hashes ((run wJ schedJ).logs 0).heads = [[1]] := by
  decide

/-- `join_reads_ordered` applies to this run -/
example : ∃ a b, a ≤ b ∧ b ≤ ((run wJ schedJ).ev 1).length ∧
    ((run wJ schedJ).ev 0)[1]? = some (.wr 0 (.join [7] (-1))
      { hs := (past (wJ.logs 1) ((run wJ schedJ).ev 1) a).heads,
        es := (past (wJ.logs 1) ((run wJ schedJ).ev 1) b).entries,
        hsAt := some (1, 3), esAt := some (1, 6) }) :=
  ⟨3, 6, by decide, by decide, by decide⟩

/-! the hypotheses of `join_includes_snapshot` / `join_heads_are_entries` are satisfiable -/
def e1x : Entry := { hash := [1], logId := [7], next := [], refs := [], clock := { id := [2], time := 1 } }
def e2x : Entry := { hash := [2], logId := [7], next := [[1]], refs := [], clock := { id := [2], time := 2 } }

example : ∃ d, join C13.log0 C13.log0.id [e1x, e2x] [e1x] (-1) = .ok d := ⟨_, rfl⟩

example : ∀ d, join C13.log0 C13.log0.id [e1x, e2x] [e1x] (-1) = .ok d →
    (∀ x ∈ [e1x], x.hash ∈ hashes d.entries) ∧ (∀ x ∈ d.heads, x.hash ∈ hashes d.entries) := fun d hj =>
  ⟨(join_includes_snapshot (E1 := [e1x]) (E2 := [e1x, e2x]) (H1 := [e1x])
      (by simp [NodupH, hashes, e1x, e2x]) (by simp) (by simp [Closed, e1x]) (by simp)
      (fun x hx => ⟨e1x, by simp, by simp at hx; subst hx; exact .refl e1x (by simp)⟩)
      C13.log0 d (-1) (fun _ => true) (by simp [e1x, C13.log0]) (by simp [Closed, C13.log0])
      (by simp [C13.log0]) (by decide) hj).1,
   join_heads_are_entries (E2 := [e1x, e2x]) (H1 := [e1x]) (by simp [NodupH, hashes, e1x, e2x]) (by simp)
      C13.log0 d (-1) (fun _ => true) (by simp [e1x, C13.log0]) (by simp [C13.log0]) (by decide) hj⟩

/-! `heads_are_entries_every_schedule` is not vacuous, and the schedule it is about: log 1 = b1 ← b2,
log 2 = c1 (newer).  Thread 0 merges log 1 into the empty log 0; after it has read the heads `[b2]` of log 1,
thread 1 merges log 2 into log 1 with bound 1, which trims log 1 to `[c1]`; thread 0 then reads the entries
`[c1]`.  Its stale head `b2` is not an entry of the result and is dropped: log 0 ends with no head that is
not its entry. -/
def tb1 : Entry := { hash := [1], logId := [7], next := [], refs := [], clock := { id := [4], time := 1 } }
def tb2 : Entry := { hash := [2], logId := [7], next := [[1]], refs := [], clock := { id := [4], time := 2 } }
def tc1 : Entry := { hash := [3], logId := [7], next := [], refs := [], clock := { id := [5], time := 5 } }
def wT : World := mkWorld
  (fun i => if i = 1 then { id := [7], entries := [tb1, tb2], heads := [tb2], nextIdx := [[1]], clock := { id := [4], time := 2 }, sortFn := .lww }
            else if i = 2 then { id := [7], entries := [tc1], heads := [tc1], nextIdx := [], clock := { id := [5], time := 5 }, sortFn := .lww }
            else C13.log0)
  (progsOfList [joinProg 0 1 [7] (-1), joinProg 1 2 [7] 1])
def schedT : List Tid := List.replicate 6 0 ++ List.replicate 15 1 ++ List.replicate 9 0

example : (exec wT schedT).map (fun w => (hashes (w.logs 1).entries, hashes (w.logs 0).entries, hashes (w.logs 0).heads,
    (w.thr 0).rest.length + (w.thr 1).rest.length)) = some ([[3]], [], [], 0) := by decide +kernel

example : HeadsIn wT := by
  intro l x hx
  by_cases h1 : l = 1
  · subst h1; simp [wT, mkWorld] at hx ⊢; subst hx; decide
  · by_cases h2 : l = 2
    · subst h2; simp [wT, mkWorld] at hx ⊢; subst hx; decide
    · simp [wT, mkWorld, h1, h2, C13.log0] at hx

/-! ## The code before the repair: own lock first, then the other's entries, then its heads -/

/-- the old program acquires the other log's lock while holding its own -/
example : wb none (joinProgOld 0 1 [7] (-1)) = false := by decide +kernel

/-- A←B ‖ B←A with the old order: after each has taken its own lock nobody can move -/
def wOldCross : World := mkWorld (fun _ => C13.log0)
  (progsOfList [joinProgOld 0 1 [7] (-1), joinProgOld 1 0 [7] (-1)])

example : (∀ t, t < 2 → finished (run wOldCross [0, 1]) t = false) ∧
    (∀ t, t < 2 → (step (run wOldCross [0, 1]) t).isNone = true) := by decide +kernel

/-- old order, entries read BEFORE heads: an append in between makes the merge use a head that is
    missing from the entries it read, so nothing of the source is merged although the source held
    the entry when its heads were read (before the repair of the unadmitted-heads defect the
    destination even ended with that head while it was not one of its entries) -/
def wOldSnap : World := mkWorld (fun _ => C13.log0)
  (progsOfList [joinProgOld 0 1 [7] (-1), appendProg 1 1 [1]])

example : hashes ((run wOldSnap [0, 0, 0, 0,  1, 1, 1, 1, 1, 1, 1,  0, 0, 0, 0, 0]).logs 0).heads = [] ∧
    hashes ((run wOldSnap [0, 0, 0, 0,  1, 1, 1, 1, 1, 1, 1,  0, 0, 0, 0, 0]).logs 0).entries = [] ∧
    hashes ((run wOldSnap [0, 0, 0, 0,  1, 1, 1, 1, 1, 1, 1,  0, 0, 0, 0, 0]).logs 1).entries = [[1]] := by
  decide

end Model.C14
