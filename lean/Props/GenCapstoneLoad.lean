import Props.GenLoaders
import Props.C10
/-!
# Props.GenCapstoneLoad — the C10 statement about the TRANSLATED glue of `NewFromEntry`

For every accepted, quiescent, un-cancelled execution of the bounded fetcher (any concurrency, any heap order, any
arrival order) run with the length the translated `fromEntryLength` computes, the translated `fromEntryTail` makes
of the fetch result — without panicking — a list whose entries are the keeping cut of the *whole* sorted closure:
every supplied entry, `min (max n k) size` entries in all, independent of the schedule.
-/
namespace Model.Capstone
open Model Model.Go Model.SlicesGen Model.C10

theorem translated_limited_load (cfg : FCfg) (roots : List Hash) (evs : List FEvent) (s : FState)
    (source : List Entry) (n : Int) (hn : 0 ≤ n) (hne : source ≠ [])
    (hlen : cfg.length = Generated.Go.fromEntryLength (some n) source)
    (hsrc : ∀ e ∈ source, e ∈ reach cfg.store roots)
    (hex : ∀ h, cfg.excluded h = false) (hcl : ClosedStore cfg roots) (hti : TimesIncrease cfg)
    (hrefs : ∀ h e, Anc cfg roots h → get? cfg.store h = some e → ∀ c ∈ e.refs, Anc cfg roots c)
    (hsto : STO clockAsc (· ∈ reach cfg.store roots))
    (hasym : ∀ a b, a ∈ reach cfg.store roots → b ∈ reach cfg.store roots → clockAsc a b = true → clockAsc b a = false)
    (htime : ∀ a b, a ∈ reach cfg.store roots → b ∈ reach cfg.store roots →
      a.clock.time < b.clock.time → clockAsc a b = true)
    (h : accepted cfg roots evs = some s) (hq : quiescent s) (hc : s.cancelled = false) :
    ∃ (id : Bytes) (ents : List Entry),
      Generated.Go.fromEntryTail [] source s.results (Generated.Go.fromEntryLength (some n) source) = some (id, ents) ∧
      omFromList ents = lastNKeeping cfg.length (goSort clockAsc (reach cfg.store roots)) source ∧
      (∀ e ∈ source, e ∈ omFromList ents) ∧
      (omFromList ents).length = min cfg.length.toNat (reach cfg.store roots).length := by
  have hlen' : cfg.length = max n (source.length : Int) := by
    rw [hlen, fromEntryLength_eq]
    simp only [Option.getD_some]
    rw [if_pos (by omega)]
  obtain ⟨L, hL, h1, h2, h3, _⟩ := load_entries_limited_exact cfg roots evs s [] .lww source n hn hne hlen' hsrc hex hcl hti
    hrefs hsto hasym htime h hq hc
  -- the glue, mapped through `NewLog`, is the model's loader: it returned, and what it returned makes `L`
  obtain ⟨r, hr, hLr⟩ := Option.map_eq_some_iff.mp ((fromEntry_eq [] .lww source s.results (some n)).trans hL)
  subst hLr
  exact ⟨r.1, r.2, hr, h1, h2, h3⟩

end Model.Capstone
