import Props.GenViews
import Proofs.Values
/-!
# Props.GenCapstoneViews — C02 and C03 stated about the TRANSLATED observation function

`ToSnapshot` is how a user (and the correspondence harness) looks at a log.  On every replica that satisfies the
structural invariant and whose ordering is a strict total order on its entries, the translated `ToSnapshot` returns —
without panicking, with the model's fuel — heads that are exactly the hashes of the entries no entry names, and
values that hold every entry exactly once, no entry before one of its predecessors, sorted by the log's ordering.
The statement mentions only generated definitions.
-/
namespace Model.Capstone
open Model Model.Go Model.SlicesGen

theorem translated_snapshot {U : List Entry} {l : Log} (I : Inv U l) (ho : OrderOk l.sortFn l.entries)
    (hE : ∀ e ∈ l.entries, e.hash ≠ []) :
    ∃ hs vs, Generated.Go.toSnapshot (traverseFuel l.entries l.heads) l.entries (before l.sortFn) l.heads = some (hs, vs) ∧
      (∀ h, h ∈ hs ↔ ∃ e ∈ l.entries, e.hash = h ∧ ¬ namedBy l.entries h) ∧ hs.Nodup ∧
      vs.Perm l.entries ∧ vs.Nodup ∧
      vs.Pairwise (fun a b => b.hash ∉ a.next) ∧
      vs.Pairwise (fun a b => before l.sortFn b a = true) := by
  refine ⟨hashes l.heads, values l, toSnapshot_eq l hE (fun e he => hE e (I.headsIn e he)), fun h => ?_, I.headsNodup,
    values_perm I ho, values_nodup I ho, Model.values_causal I ho, Model.values_sorted I ho⟩
  rw [mem_hashes]
  exact ⟨fun ⟨e, he, hh⟩ => ⟨e, I.headsIn e he, hh, hh ▸ I.headsUnref e he⟩,
    fun ⟨e, he, hh, hn⟩ => ⟨e, I.headsSpec e he (hh ▸ hn), hh⟩⟩

end Model.Capstone
