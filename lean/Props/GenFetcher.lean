import Generated.GenFetcher
import Props.GenCommon
import Proofs.FetchBasic
/-!
# Props.GenFetcher — `updateClock`, `addNextEntry` and the admission test of `processQueue` (entry/fetcher.go),
translated, are `newMax`/`newMin`, `addNext` and `admits` of `Model/Fetcher.lean`

The integer fields of the fetcher are parameters (and results when assigned); `f.addHashToQueue` is the parameter
`add`, its priority argument is not represented (the model's queue is unordered).
-/
namespace Model.SlicesGen
open Model Model.Go Model.Codec

theorem updateClock_eq {Q : Type} (add : Q → Hash → Q) (len : Int) (s : FState) (e : Entry) :
    Generated.Go.updateClock add len s.maxClock s.minClock e s.results.getLast? = (newMax s e, newMin s e) := by
  unfold Generated.Go.updateClock newMin newMax
  simp only [decide_eq_true_eq, ite_lt_max, ite_lt_min]
  cases s.results.getLast? <;> rfl

theorem addNextEntry_eq (cfg : FCfg) (s : FState) (e : Entry) :
    Generated.Go.addNextEntry (addHash cfg) cfg.length s.maxClock s.minClock s e s.results = addNext cfg s e := by
  unfold Generated.Go.addNextEntry addNext queueRefs
  have hr : (queueNext cfg s e).results = s.results := by rw [queueNext_eq, addHashes_eq]
  rw [hr]
  unfold queueNext addHashes
  have hc : ((s.results.length : Int) < cfg.length ∨ e.clock.time > s.minClock) ∨ e.clock.time = s.minClock ↔
      (s.results.length : Int) < cfg.length ∨ e.clock.time ≥ s.minClock := by omega
  simp only [decide_eq_true_eq, Bool.or_eq_true, beq_iff_eq, hc]

/-- the admission test of `processQueue` (with the minimum clock `updateClock` has just computed) is the model's
    `admits`, whatever boolean shape the code gives it -/
theorem admission_eq (cfg : FCfg) (s : FState) (e : Entry) :
    Generated.Go.admission cfg.length (newMin s e) (newMax s e) s.results e.clock.time = admits cfg s e := by
  unfold Generated.Go.admission admits
  rfl

end Model.SlicesGen
