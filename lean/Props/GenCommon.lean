import Model.GoPrelude
import Model.Loaders
import Model.Codec
import Model.Fetcher
import Proofs.OMap
/-!
# Props.GenCommon — what the `Props/Gen*.lean` files share: the Go primitives of `Model/GoPrelude.lean` and the
shapes the translator gives to Go loops, each read as the list function it computes

The `Props/Gen*.lean` files prove the definitions of `Generated/Gen*.lean` — printed from the Go source on every check
run — equal to the hand-written model the property theorems are about; all of them continue the namespace opened here,
`Model.SlicesGen` (the `Props/GenCapstone*.lean` files, which compose the equalities with the property theorems, are in
`Model.Capstone`).  Nothing in this file depends on generated code.
-/
namespace Model.SlicesGen
open Model Model.Go Model.Codec

theorem slice?_suffix {α : Type} (xs : List α) (a : Int) (h0 : 0 ≤ a) (h1 : a ≤ xs.length) :
    slice? xs a xs.length = some (xs.drop a.toNat) := by
  unfold slice?
  rw [if_pos ⟨h0, h1, Int.le_refl _⟩]
  simp

theorem slice?_isSome {α : Type} (xs : List α) (a b : Int) (h : 0 ≤ a ∧ a ≤ b ∧ b ≤ xs.length) :
    (slice? xs a b).isSome = true := by
  unfold slice?; rw [if_pos h]; rfl

theorem slice?_last {α : Type} (xs : List α) (n : Int) (h0 : 0 ≤ n) (h1 : n ≤ xs.length) :
    slice? xs ((xs.length : Int) - n) xs.length = some (xs.drop (xs.length - n.toNat)) := by
  obtain ⟨m, rfl⟩ := Int.eq_ofNat_of_zero_le h0
  rw [slice?_suffix xs _ (Int.sub_nonneg_of_le h1) (Int.sub_le_self _ h0), Int.toNat_sub, Int.toNat_natCast]

theorem slice?_dropLast {α : Type} (xs : List α) (h : 0 < xs.length) :
    slice? xs 0 ((xs.length : Int) - 1) = some xs.dropLast := by
  unfold slice?
  rw [if_pos ⟨Int.le_refl _, by omega, by omega⟩, List.dropLast_eq_take]
  exact congrArg (fun n => some (xs.take n)) (Int.toNat_sub xs.length 1)

/-- `if c { return x }` in front of code that returns -/
theorem ite_some_eq {α : Type} {c : Prop} [Decidable c] {x y : α} {o : Option α} (hx : c → x = y) (ho : ¬ c → o = some y) :
    (if c then some x else o) = some y := by
  by_cases hc : c
  · rw [if_pos hc, hx hc]
  · rw [if_neg hc, ho hc]

theorem ite_lt_max (a b : Int) : (if a < b then b else a) = max a b := by
  simp only [Int.max_comm a b, Int.max_def, ← Int.not_lt, ite_not]

theorem ite_lt_min (a b : Int) : (if b < a then b else a) = min a b := by
  simp only [Int.min_def, ← Int.not_lt, ite_not]

/-- `a > b || a == b` is `a ≥ b` (the code may spell it either way) -/
theorem gt_or_beq (a b : Int) : (decide (a > b) || (a == b)) = decide (a ≥ b) := by
  rw [Bool.eq_iff_iff]
  simp only [Bool.or_eq_true, decide_eq_true_eq, beq_iff_eq]
  omega

theorem foldl_sim {α β γ : Type} (R : α → β → Prop) (f : α → γ → α) (g : β → γ → β)
    (h : ∀ a b x, R a b → R (f a x) (g b x)) : ∀ (l : List γ) (a : α) (b : β), R a b → R (l.foldl f a) (l.foldl g b) := by
  intro l a b r
  exact List.foldl_rel r (fun x _ c c' => h c c' x)

theorem foldl_append_flatMap {α β : Type} (f : α → List β) : ∀ (l : List α) (acc : List β),
    l.foldl (fun acc x => acc ++ f x) acc = acc ++ l.flatMap f := by
  intro l acc
  rw [List.foldl_append_eq_append, List.flatMap_def]

theorem foldl_snoc {α β : Type} (g : α → β) (l : List α) (acc : List β) :
    l.foldl (fun acc x => acc ++ [g x]) acc = acc ++ l.map g := by
  rw [foldl_append_flatMap (fun x => [g x]), List.map_eq_flatMap]

theorem foldl_ite_snoc {α β : Type} (p : α → Bool) (g : α → β) (l : List α) (acc : List β) :
    l.foldl (fun acc x => if p x = true then acc ++ [g x] else acc) acc = acc ++ (l.filter p).map g := by
  rw [← List.foldl_filter (p := p) (f := fun acc x => acc ++ [g x]), foldl_snoc]

theorem foldl_cond_append (p : Entry → Bool) : ∀ (l acc : List Entry),
    l.foldl (fun result h => if p h = true then result else result ++ [h]) acc = acc ++ l.filter (fun e => !p e) := by
  intro l acc
  rw [← List.map_id (l.filter _), ← foldl_ite_snoc]
  congr 1
  funext result h
  cases p h <;> rfl

theorem foldl_search {σ α : Type} (f : σ → α → σ) (p : α → Bool) (s hit : σ)
    (hs : ∀ a, f s a = if p a = true then hit else s) (hhit : ∀ a, f hit a = hit) :
    ∀ l : List α, l.foldl f s = if l.any p = true then hit else s := by
  have stuck : ∀ l : List α, l.foldl f hit = hit := fun l => by
    induction l with
    | nil => rfl
    | cons a t ih => rw [List.foldl_cons, hhit, ih]
  intro l
  induction l with
  | nil => rfl
  | cons a t ih =>
    rw [List.foldl_cons, hs, List.any_cons]
    cases p a with
    | true => exact stuck t
    | false => exact ih

/-- the search loop with an early `return true` (a fold that keeps the first hit) and `false` after it -/
theorem search_true {α : Type} (p : α → Bool) (cs : List α) :
    (cs.foldl (fun hit c => hit.or (if p c = true then some true else none)) none).getD false = cs.any p := by
  rw [foldl_search _ p none (some true) (fun _ => Option.none_or) (fun _ => rfl)]
  cases cs.any p <;> rfl

/-- the search loop with `break`: the fold carries the flag and the answer -/
theorem break_fold {α : Type} (p : α → Bool) (l : List α) :
    (l.foldl (fun (s : Bool × Bool) n => if s.1 = true then (s.1, s.2) else if p n = true then (true, true) else (s.1, s.2))
      (false, false)).2 = l.any p := by
  rw [foldl_search _ p (false, false) (true, true) (fun _ => rfl) (fun _ => rfl)]
  cases l.any p <;> rfl

theorem mem_foldl_insert {σ κ : Type} [BEq κ] (mem : σ → κ → Bool) (step : σ → κ → σ)
    (hstep : ∀ s k h, mem (step s k) h = (mem s h || h == k)) :
    ∀ (l : List κ) (s : σ) (h : κ), mem (l.foldl step s) h = (mem s h || l.contains h) := by
  intro l
  induction l with
  | nil => intro s h; simp
  | cons k t ih => intro s h; rw [List.foldl_cons, ih, hstep, List.contains_cons, Bool.or_assoc]

theorem mem_foldl_foldl_insert {α σ κ : Type} [BEq κ] (mem : σ → κ → Bool) (step : α → σ → κ → σ) (keys : α → List κ)
    (hstep : ∀ a s k h, mem (step a s k) h = (mem s h || h == k)) :
    ∀ (E : List α) (s : σ) (h : κ),
      mem (E.foldl (fun s a => (keys a).foldl (step a) s) s) h = (mem s h || (E.flatMap keys).contains h) := by
  intro E
  induction E with
  | nil => intro s h; simp
  | cons a t ih =>
    intro s h
    rw [List.foldl_cons, ih, mem_foldl_insert mem (step a) (hstep a), List.flatMap_cons, List.contains_append, Bool.or_assoc]

theorem or_beq_of_mem {mem : Hash → Bool} {k : Hash} (hk : mem k = true) (h : Hash) : (mem h || h == k) = mem h := by
  cases hh : h == k with
  | true => rw [eq_of_beq hh, hk]; rfl
  | false => exact Bool.or_false _

theorem contains_ite_insert (m m' : List Hash) (k h : Hash) (hm' : m'.contains h = (m.contains h || h == k)) :
    (if m.contains k = true then m else m').contains h = (m.contains h || h == k) := by
  split
  · exact (or_beq_of_mem (mem := m.contains) ‹_› h).symm
  · exact hm'

theorem contains_setInsert (m : List Hash) (k h : Hash) :
    (setInsert m k).contains h = (m.contains h || h == k) :=
  contains_ite_insert m _ k h (by rw [List.contains_append, List.contains_cons, List.contains_nil, Bool.or_false])

theorem setInsert_eq_hsSet : setInsert = hsSet := rfl

theorem setInsert_eq_hsSet' : (fun (next : List Hash) (n : Hash) => setInsert next n) = hsSet := rfl

/-- same members: the code inserts a visited hash into a set, the model conses it to a list -/
def SameSet (a b : List Hash) : Prop := ∀ h, a.contains h = b.contains h

theorem sameSet_insert {a b : List Hash} (h : SameSet a b) (k : Hash) : SameSet (setInsert a k) (k :: b) := by
  intro x
  rw [contains_setInsert, h x, List.contains_cons, Bool.or_comm]

theorem mapHas_mapSet (m : List (Hash × Hash)) (k v h : Hash) :
    mapHas (mapSet m k v) h = (mapHas m h || h == k) := by
  unfold mapSet
  split
  · have hkey : ∀ p : Hash × Hash, (if (p.1 == k) = true then (k, v) else p).1 = p.1 := fun p => by
      split
      · exact (eq_of_beq ‹_›).symm
      · rfl
    rw [or_beq_of_mem (mem := mapHas m) ‹_› h]
    simp only [mapHas, List.any_map, Function.comp_def, hkey]
  · rw [mapHas, List.any_append, List.any_cons, List.any_nil, Bool.or_false, Bool.beq_comm (a := k)]
    rfl

theorem mapGet_of_not_has (m : List (Hash × Hash)) (h : Hash) (hn : mapHas m h = false) : mapGet m h = [] := by
  unfold mapGet
  rw [List.find?_eq_none.mpr (fun p hp => by simpa using List.any_eq_false.mp hn p hp)]

/-- the zero value read from a missing key is `""`: `ok || v != ""` says no more than `ok` -/
theorem mapHas_or_mapGet (m : List (Hash × Hash)) (k : Hash) :
    (mapHas m k || mapGet m k != ([] : Hash)) = mapHas m k := by
  cases h : mapHas m k with
  | true => rfl
  | false => rw [mapGet_of_not_has m k h]; rfl

/-- an insertion-ordered set (`omSet`, `hsSet`): inserting a de-duplicated copy of a list (`C = []`) is inserting the list -/
theorem foldl_insert_foldl {κ : Type} (mem : List κ → κ → Bool) (ins : List κ → κ → List κ)
    (hins : ∀ l k, ins l k = if mem l k = true then l else l ++ [k])
    (hmem : ∀ l s k, mem (l.foldl ins s) k = (mem s k || mem l k)) (s : List κ) :
    ∀ (B C : List κ), (B.foldl ins C).foldl ins s = B.foldl ins (C.foldl ins s) := by
  intro B
  induction B with
  | nil => intro C; rfl
  | cons b t ih =>
    intro C
    rw [List.foldl_cons, List.foldl_cons, ih]
    congr 1
    rw [hins C]
    cases hb : mem C b with
    | true => rw [if_pos rfl, hins, hmem, hb, Bool.or_true, if_pos rfl]
    | false => rw [if_neg Bool.false_ne_true, List.foldl_append]; rfl

theorem get?_isSome (E : List Entry) (h : Hash) : (get? E h).isSome = has E h :=
  (has_eq_isSome E h).symm

theorem get?_some_hash {E : List Entry} {h : Hash} {e : Entry} (hg : get? E h = some e) : e.hash = h :=
  (get?_mem hg).2

theorem has_append_single (d : List Entry) (v : Entry) (h : Hash) : has (d ++ [v]) h = (has d h || h == v.hash) := by
  simp only [has, List.any_append, List.any_cons, List.any_nil, Bool.or_false]
  congr 1
  rw [Bool.beq_comm]

theorem mem_goSort' {lt : Entry → Entry → Bool} {l : List Entry} {a : Entry} : a ∈ goSort lt l → a ∈ l :=
  mem_goSort.mp

theorem foldl_setInsert (l : List Entry) : ∀ (acc : List Hash),
    l.foldl (fun kept e => setInsert kept e.hash) acc = dedupHashes (l.map (·.hash)) acc := by
  intro acc
  rw [dedupHashes_eq_foldl, List.foldl_map]
  rfl

/-- the loop of `uniqueCIDs` (keep a CID unless it was met) against the codec model's recursion (keep the head,
    remove it from the rest); `uniq_sublist`, `uniq_nodup`, `uniq_eq_self` are in `Proofs/Codec.lean` -/
theorem dedup_uniq : ∀ (l acc : List Bytes),
    dedupHashes l acc = acc ++ (uniq l).filter (fun x => !acc.contains x) := by
  intro l
  induction l with
  | nil => intro acc; simp [dedupHashes, uniq]
  | cons c t ih =>
    intro acc
    rw [dedupHashes, uniq, List.filter_cons, List.filter_filter]
    cases hc : acc.contains c with
    | true =>
      -- `c` is in `acc`: removing it from what is outside `acc` removes nothing
      rw [if_pos rfl, if_neg (by simp), ih]
      refine congrArg (acc ++ ·) (List.filter_congr fun x _ => ?_)
      cases hx : acc.contains x with
      | true => rfl
      | false => simp [show x ≠ c from fun h => by rw [h, hc] at hx; cases hx]
    | false =>
      rw [if_neg (by simp), if_pos (by simp), ih, List.append_assoc]
      refine congrArg (acc ++ c :: ·) (List.filter_congr fun x _ => ?_)
      simp only [List.contains_append, List.contains_cons, List.contains_nil, Bool.or_false, Bool.not_or, bne]

theorem uniq_eq_dedup (l : List Bytes) : uniq l = dedupHashes l [] := by
  rw [dedup_uniq]
  simp only [List.nil_append, List.contains_nil, Bool.not_false]
  exact (List.filter_eq_self.mpr (fun _ _ => rfl)).symm

end Model.SlicesGen
