import Generated.GenLoaders
import Props.GenCommon
import Props.C19Gen
import Proofs.OMap
import Proofs.LoadersUnbounded
import Proofs.SortTrim
/-!
# Props.GenLoaders — the loaders of log_io.go around their fetch, translated, are the model's loaders

First the slice helpers: `entryLastN`, `entryLastNKeeping`, `entrySliceRange` (log_io.go) and `Difference`
(entry/utils.go) are `lastN`, `lastNKeeping`, `take`/`drop` and `entryDifference`, and no slice expression in them can
panic.  Then, loader by loader, the glue between the options, the fetch result (a parameter) and `NewLog`:
`fromEntry_eq`, `fromJSON_eq`, `fromMultihash_eq`, `fromEntryHash_eq` identify it with `loadEntries`, `loadJSON`,
`loadManifest`, `loadEntryHash` of `Model/Loaders.lean`, the functions C09 and C10 are about.
-/
namespace Model.SlicesGen
open Model Model.Go Model.Codec

/-- **`entrySliceRange` (log_io.go) for every `from` and `to`**: a negative bound counts from the end; no slice
    expression can panic -/
theorem entrySliceRange_eq (es : List Entry) (a b : Int) :
    Generated.Go.entrySliceRange es a b =
      some ((es.take (if b < 0 then es.length + b else b).toNat).drop (if a < 0 then es.length + a else a).toNat) := by
  unfold Generated.Go.entrySliceRange
  simp only [decide_eq_true_eq, beq_iff_eq]
  generalize (if b < 0 then (es.length : Int) + b else b) = T
  -- clamping the lower bound at 0 is what `toNat` does
  have hA : (if a < 0 then (if (es.length : Int) + a < 0 then (0 : Int) else (es.length : Int) + a) else a) =
      (if a < 0 then (es.length : Int) + a else a).toNat := by
    by_cases ha : a < 0
    · rw [if_pos ha, if_pos ha, ite_lt_max, Int.toNat_eq_max]
    · rw [if_neg ha, if_neg ha, Int.toNat_of_nonneg (Int.not_lt.mp ha)]
  rw [hA, ite_lt_min T (es.length : Int)]
  generalize (if a < 0 then (es.length : Int) + a else a).toNat = f
  -- clamping the upper bound at the length is what `take` does
  have hT : es.take T.toNat = es.take (min T es.length).toNat := by
    rcases Int.le_total T es.length with h | h
    · rw [Int.min_eq_left h]
    · rw [Int.min_eq_right h, Int.toNat_natCast, List.take_length, List.take_of_length_le (by omega)]
  rw [hT]
  -- the three early exits: the prefix is too short for anything to be left after the drop
  have exit : min T (es.length : Int) ≤ f → [] = (es.take (min T es.length).toNat).drop f := fun h =>
    (List.drop_eq_nil_of_le (Nat.le_trans (List.length_take_le _ _) (Int.toNat_le.mpr h))).symm
  refine ite_some_eq (fun h => exit (Int.le_trans (Int.min_le_right _ _) (h ▸ Int.natCast_nonneg f))) fun _ => ?_
  refine ite_some_eq (fun h => exit (Int.le_trans (Int.min_le_right _ _) h)) fun _ => ?_
  refine ite_some_eq exit fun hlt => ?_
  -- the `from == to` test the code makes next is dead (`from < to` here) and may be absent
  try rw [if_neg (fun e => hlt (Int.le_of_eq e.symm))]
  unfold slice?
  rw [if_pos ⟨Int.natCast_nonneg f, Int.le_of_lt (Int.not_le.mp hlt), Int.min_le_right _ _⟩, Int.toNat_natCast]

theorem entrySliceRange_total (es : List Entry) (a b : Int) : (Generated.Go.entrySliceRange es a b).isSome = true := by
  rw [entrySliceRange_eq]
  rfl

/-- the call `fromEntry` makes -/
theorem entrySliceRange_drop (es : List Entry) (k : Nat) :
    Generated.Go.entrySliceRange es k es.length = some (es.drop k) := by
  rw [entrySliceRange_eq, if_neg (by omega), if_neg (by omega), Int.toNat_natCast, Int.toNat_natCast, List.take_length]

theorem entryLastN_eq (es : List Entry) (n : Int) : Generated.Go.entryLastN es n = some (lastN n es) := by
  unfold Generated.Go.entryLastN lastN
  simp only [decide_eq_true_eq, apply_ite some]
  exact ite_congr rfl (fun _ => rfl) fun h0 => ite_congr rfl (fun _ => rfl) fun h1 => slice?_last es n (by omega) (by omega)

theorem entryLastNKeeping_eq (es : List Entry) (n : Int) (keep : List Entry) :
    Generated.Go.entryLastNKeeping es n keep = lastNKeeping n es keep := by
  unfold Generated.Go.entryLastNKeeping lastNKeeping
  by_cases h : n ≥ (es.length : Int)
  · simp [h]
  · simp only [h, decide_false, Bool.false_eq_true, if_false, foldl_setInsert]
    refine congrArg List.reverse ?_
    -- code and model carry the same quota and output, in opposite order
    refine (foldl_sim (fun (a : Int × List Entry) (b : List Entry × Int) => a.2 = b.1 ∧ a.1 = b.2) _ _ ?_
      es.reverse _ _ ⟨rfl, rfl⟩).1
    rintro ⟨q, o⟩ ⟨_, _⟩ e ⟨rfl, rfl⟩
    dsimp only
    -- a kept entry is taken whatever the quota; for the others decide the quota test, in both spellings (`quota > 0`, `quota <= 0`)
    by_cases hk : e.hash ∈ dedupHashes (keep.map (·.hash)) []
    · simp [hk]
    · by_cases hq : 0 < q
      · simp [hk, hq, Int.not_le.mpr hq]
      · simp [hk, hq, Int.not_lt.mp hq]

theorem difference_eq (a b : List Entry) : Generated.Go.entryDifference a b = entryDifference a b := by
  unfold Generated.Go.entryDifference entryDifference
  simp only
  have he : ∀ h, (a.foldl (fun existing v => setInsert existing v.hash) []).contains h = has a h := fun h => by
    rw [Bool.eq_iff_iff, foldl_setInsert, dedupHashes_eq_foldl, List.contains_iff_mem, mem_foldl_hsSet, has_iff_mem_hashes]
    exact or_iff_right List.not_mem_nil
  -- the code keeps the hashes of its output in a set of their own, the model asks the output
  refine (foldl_sim (fun (x : List Hash × List Entry) (y : List Entry) => x.2 = y ∧ ∀ h, x.1.contains h = has y h)
    _ _ ?_ b _ _ ⟨rfl, fun h => by simp [has]⟩).1
  rintro ⟨p, d⟩ _ v ⟨rfl, r2⟩
  dsimp only at r2 ⊢
  rw [he v.hash, r2 v.hash]
  cases has a v.hash <;> cases has d v.hash <;>
    simp only [Bool.not_true, Bool.not_false, Bool.and_self, Bool.and_false, Bool.false_and, Bool.false_eq_true, if_false,
      if_true, Bool.or_self, Bool.or_true, Bool.true_or, true_and]
  -- an entry that is neither in `a` nor in the output yet is appended, and its hash recorded
  case false.false => intro h; rw [contains_setInsert, r2 h, has_append_single]
  all_goals exact r2

/-- `if options.Length != nil && *options.Length > -1 { … *options.Length … }`: an absent length reads as `-1` -/
theorem ite_optLength {α : Type} (o : Option Int) (f : Int → α) (y : α) :
    (if (o.isSome && decide (o.getD 0 > -1)) = true then f (o.getD 0) else y) =
      if o.getD (-1) > -1 then f (o.getD (-1)) else y := by
  cases o with
  | none => rfl
  | some v => simp only [Option.isSome_some, Bool.true_and, Option.getD_some, decide_eq_true_eq]

theorem fromEntryLength_eq (nOpt : Option Int) (source : List Entry) :
    Generated.Go.fromEntryLength nOpt source =
      (if nOpt.getD (-1) > -1 then max (nOpt.getD (-1)) (source.length : Int) else -1) := by
  unfold Generated.Go.fromEntryLength
  simp only [C19Gen.maxInt_eq]
  exact ite_optLength nOpt (fun n => max n (source.length : Int)) (-1)

/-- **`fromEntry`'s glue, translated, is the model's `loadEntries`** (no `Exclude` list; the fetch result is a
    parameter): the same entries in the same order under the log id of the last one, or — when nothing at all is
    left — the panic of the code (`none`) -/
theorem fromEntry_eq (clockId : Bytes) (k : SortKind) (source fetched : List Entry) (nOpt : Option Int) :
    (Generated.Go.fromEntryTail [] source fetched (Generated.Go.fromEntryLength nOpt source)).map
        (fun r => newLog r.1 clockId k r.2 []) =
      loadEntries clockId k source fetched (nOpt.getD (-1)) := by
  rw [fromEntryLength_eq]
  unfold Generated.Go.fromEntryTail loadEntries
  simp only [List.append_nil, entryLastNKeeping_eq, difference_eq]
  generalize (if nOpt.getD (-1) > -1 then max (nOpt.getD (-1)) (source.length : Int) else -1) = len
  generalize goSort clockAsc (omFromList (source ++ fetched)) = uniques
  simp only [decide_eq_true_eq]
  generalize (if len > -1 then lastNKeeping len uniques source else uniques) = sliced
  rw [entrySliceRange_drop]
  simp only
  cases (entryDifference sliced source ++ List.drop (entryDifference sliced source).length sliced).getLast? <;> rfl

/-- **`fromJSON`'s glue, translated, is the model's `loadJSON`** (the fetch result is a parameter; id and heads are
    handed through from the caller's manifest) — and it cannot panic -/
theorem fromJSON_eq (clockId : Bytes) (k : SortKind) (id : Bytes) (fetched : List Entry) (nOpt : Option Int) :
    (Generated.Go.fromJSONTail nOpt fetched).map (fun ents => newLog id clockId k ents []) =
      some (loadJSON clockId k id fetched (nOpt.getD (-1))) := by
  unfold Generated.Go.fromJSONTail Generated.Go.fromJSONTail_join1 loadJSON
  simp only [entryLastN_eq]
  rw [ite_optLength nOpt (fun n => some (lastN n (goSort clockAsc fetched))), ← apply_ite some]
  rfl

/-- the hashes the manifest names as heads, in the order of the entries: the code compares every entry with every
    manifest head (and would append an entry twice for a repeated head), the model filters -/
theorem heads_fold (M : List Hash) (hM : M.Nodup) (ents : List Entry) (acc : List Hash) :
    ents.foldl (fun heads e => M.foldl (fun heads h => if (h == e.hash) = true then heads ++ [e.hash] else heads) heads) acc =
      acc ++ (ents.filter (fun e => M.contains e.hash)).map (·.hash) := by
  have inner : ∀ (x : Hash) (acc : List Hash),
      M.foldl (fun heads h => if (h == x) = true then heads ++ [x] else heads) acc =
        if M.contains x = true then acc ++ [x] else acc := fun x acc => by
    rw [foldl_ite_snoc (· == x) (fun _ => x), List.filter_beq, hM.count]
    simp only [List.contains_iff_mem]
    split <;> simp
  simp only [inner]
  exact foldl_ite_snoc (fun e => M.contains e.hash) (·.hash) ents acc

/-- `NewFromMultihash` looks the head hashes up again: it finds the entries they came from -/
theorem head_entries_fold (E : List Entry) (hE : (hashes E).Nodup) : ∀ (hs : List Entry) (acc : List Entry),
    (∀ e ∈ hs, e ∈ E) →
    (hs.map (·.hash)).foldl (fun heads h => if (!(get? E h).isSome) = true then heads else heads ++ [(get? E h).getD default]) acc =
      acc ++ hs := by
  intro hs
  induction hs with
  | nil => intro acc _; simp
  | cons e t ih =>
    intro acc hin
    have hg := get?_eq_of_mem hE (hin e List.mem_cons_self)
    simp only [List.map_cons, List.foldl_cons, hg, Option.isSome_some, Bool.not_true, Bool.false_eq_true, if_false,
      Option.getD_some]
    rw [ih _ (fun x hx => hin x (List.mem_cons_of_mem _ hx))]
    simp

/-- **the glue of the default loader (`fromMultihash`, then `NewFromMultihash`), translated, is the model's
    `loadManifest`** (manifest heads and fetched entries without repetitions; the fetch result is a parameter) -/
theorem fromMultihash_eq (clockId : Bytes) (logSort fetchSort : SortKind) (id : Bytes) (manifestHeads : List Hash)
    (fetched : List Entry) (nOpt : Option Int) (hF : (hashes fetched).Nodup) (hM : manifestHeads.Nodup) :
    ∃ vals hs, Generated.Go.fromMultihashTail (beforeAsc fetchSort) nOpt manifestHeads fetched = some (vals, hs) ∧
      newLog id clockId logSort (Generated.Go.newFromMultihashHeads vals hs).1 (Generated.Go.newFromMultihashHeads vals hs).2 =
        loadManifest clockId logSort fetchSort id manifestHeads fetched (nOpt.getD (-1)) := by
  obtain ⟨ents, hdef⟩ : ∃ e, e = sortTrim (beforeAsc fetchSort) (nOpt.getD (-1)) fetched := ⟨_, rfl⟩
  have hentsND : (hashes ents).Nodup := by
    rw [hdef]
    unfold sortTrim
    split
    · have h1 := goSort_hashes_nodup (beforeAsc fetchSort) hF
      exact h1.sublist ((lastN_sublist _ _).map _)
    · exact hF
  have htail : Generated.Go.fromMultihashTail (beforeAsc fetchSort) nOpt manifestHeads fetched =
      some (ents, (ents.filter (fun e => manifestHeads.contains e.hash)).map (·.hash)) := by
    unfold Generated.Go.fromMultihashTail Generated.Go.fromMultihashTail_join1
    simp only [entryLastN_eq, heads_fold manifestHeads hM, List.nil_append]
    rw [hdef]
    unfold sortTrim
    cases nOpt with
    | none => rfl
    | some v =>
      simp only [Option.isSome_some, Bool.true_and, Option.getD_some, decide_eq_true_eq]
      split <;> rfl
  refine ⟨ents, _, htail, ?_⟩
  unfold Generated.Go.newFromMultihashHeads loadManifest
  simp only [← hdef]
  have hom : omFromList ents = ents := omFromList_eq_self hentsND
  rw [hom, head_entries_fold ents hentsND _ [] (fun e he => (List.mem_filter.mp he).1), List.nil_append]

theorem fromEntryHashLength_eq (nOpt : Option Int) :
    Generated.Go.fromEntryHashLength nOpt = (if nOpt.getD (-1) > -1 then max (nOpt.getD (-1)) 1 else -1) := by
  unfold Generated.Go.fromEntryHashLength
  simp only [C19Gen.maxInt_eq]
  exact ite_optLength nOpt (fun n => max n 1) (-1)

/-- **`fromEntryHash`'s glue, translated, is the model's `loadEntryHash`** (default ordering; the slice is sorted
    through one of its names and trimmed through the other — the translation updates both) -/
theorem fromEntryHash_eq (clockId : Bytes) (k : SortKind) (id : Bytes) (fetched : List Entry) (nOpt : Option Int) :
    (Generated.Go.fromEntryHashTail (beforeAsc .lww) fetched (Generated.Go.fromEntryHashLength nOpt)).map
        (fun ents => newLog id clockId k ents []) =
      some (loadEntryHash clockId k id fetched (nOpt.getD (-1))) := by
  rw [fromEntryHashLength_eq]
  unfold Generated.Go.fromEntryHashTail Generated.Go.fromEntryHashTail_join1 loadEntryHash sortTrim
  simp only [entryLastN_eq, decide_eq_true_eq]
  generalize (if nOpt.getD (-1) > -1 then max (nOpt.getD (-1)) 1 else -1) = len
  rw [← apply_ite some]
  rfl

end Model.SlicesGen
