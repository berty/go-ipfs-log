import Proofs.System
/-!
# C05 — the log is append-only: entries never change or vanish

For every reachable system and every operation (append, unbounded merge, identity change, new
replica).  Model values are immutable, so "entries held by other log instances are not altered" is
here the statement that a step changes only the target replica; the pointer-aliasing half of that
claim is carried by the harness (deep snapshots), see DESIGN.md.
-/
namespace Model.C05

/-- once in a log, an entry stays there, retrievable by its hash with identical content -/
theorem entry_preserved {s s' : Sys} (hr : Reachable s) {op : Op} (hstep : s.step op = some s')
    {r : Nat} {l : Log} (hl : s.logs r = some l) :
    ∃ l', s'.logs r = some l' ∧ ∀ e ∈ l.entries, e ∈ l'.entries ∧ get? l'.entries e.hash = some e := by
  have I := reachable_inv hr
  obtain ⟨l', hl', hsub, _, _⟩ := step_mono I hstep r l hl
  have I' := (sysInv_step I hstep).inv r l' hl'
  exact ⟨l', hl', fun e he => ⟨hsub e he, get?_eq_of_mem I'.nodup (hsub e he)⟩⟩

/-- the entry count never decreases -/
theorem len_mono {s s' : Sys} (hr : Reachable s) {op : Op} (hstep : s.step op = some s')
    {r : Nat} {l : Log} (hl : s.logs r = some l) :
    ∃ l', s'.logs r = some l' ∧ l.entries.length ≤ l'.entries.length := by
  have I := reachable_inv hr
  obtain ⟨l', hl', hsub, _, _⟩ := step_mono I hstep r l hl
  refine ⟨l', hl', ?_⟩
  have hnd := nodup_of_hashes_nodup (I.inv r l hl).nodup
  exact hnd.length_le_of_subset hsub

/-- each new linearised view contains the previous one as a subsequence (strict total order on the
    entries of the NEW state; see the `tieOps` examples at the end of this file for why the premise is needed) -/
theorem values_subsequence_partial {s s' : Sys} (hr : Reachable s) {op : Op} (hstep : s.step op = some s')
    {r : Nat} {l : Log} (hl : s.logs r = some l) :
    ∃ l', s'.logs r = some l' ∧ (OrderOk l'.sortFn l'.entries → (values l).Sublist (values l')) := by
  have I := reachable_inv hr
  obtain ⟨l', hl', hsub, hk, _⟩ := step_mono I hstep r l hl
  have I' := sysInv_step I hstep
  have huni : ∀ x ∈ s.uni, x ∈ s'.uni := by
    obtain ⟨t, ht⟩ := step_uni hstep
    exact fun x hx => ht ▸ List.mem_append_left t hx
  refine ⟨l', hl', fun ho' => ?_⟩
  exact values_sublist (inv_mono_universe huni (I.inv r l hl)) (I'.inv r l' hl') hk.symm ho' hsub

/-- appends and merges change only the replica they are applied to -/
theorem other_logs_untouched {s s' : Sys} {op : Op} (hstep : s.step op = some s') (r : Nat)
    (hr : match op with
      | .newLog _ _ _ => r ≠ s.n
      | .append r0 _ _ _ => r ≠ r0
      | .join r0 _ => r ≠ r0
      | .setIdentity r0 _ => r ≠ r0
      | .rebuild _ _ _ _ => r ≠ s.n) : s'.logs r = s.logs r := by
  cases step_shape hstep with
  | joinNop => rfl
  | _ => exact upd_other _ _ _ _ hr

/-! ### why the strict-total-order premise is needed (known finding `lww-tie-order`)

Under the default ordering two distinct entries of one writer with the same clock time compare as
"after" in BOTH directions, so their relative order depends on the order in which the sort meets
them.  The history below (one writer on two replicas) makes the linearisation of replica 0 go from
`[1, 2, 3]`-style order to one in which two tied entries have swapped: the previous view is NOT a
subsequence of the next.  The same history is replayed on the implementation by the harness. -/
def w : Bytes := [4, 1]
def tieOps : List Op :=
  [.newLog [88] w .lww, .newLog [88] w .lww, .append 0 0 [1] 0, .append 1 0 [2] 0, .join 0 1]
def tieOps2 : List Op := tieOps ++ [.append 1 0 [3] 0, .join 1 0, .append 1 0 [4] 0, .join 0 1]

def valuesAt (ops : List Op) (r : Nat) : List Hash :=
  match Sys.init.run ops with
  | some s => match s.logs r with
    | some l => (values l).map (·.hash)
    | none => []
  | none => []

/-- the witness: after one more append the two tied entries have swapped -/
example : valuesAt tieOps 0 = [[1], [2]] ∧ valuesAt (tieOps ++ [.append 0 0 [3] 0]) 0 = [[2], [1], [3]] := by decide +kernel

example : isSubseq (valuesAt tieOps 0) (valuesAt (tieOps ++ [.append 0 0 [3] 0]) 0) = false := by decide +kernel

end Model.C05
