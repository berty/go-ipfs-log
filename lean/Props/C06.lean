import Proofs.Admit
import Model.Sign
/-!
# C06 — merge admits only verified, authorised entries and is all-or-nothing

`join l otherId E H size valid` is the transcription of `Join` after its argument checks;
`valid e` abstracts `AccessController.CanAppend(e) = nil ∧ e.Verify(...) = nil` for a candidate
(the real outcome per candidate is what the harness feeds into `valid`).  The result type has two
outcomes: `.ok l'` or `.err`, the latter carrying no state — in the Go code every validation
(`CanAppend`, `Verify`, `wg.Wait()`) precedes the first write to `Next`/`Entries`/`heads`, which the
correspondence checks on every rejected join by comparing the full observation before and after.
-/
namespace Model.C06

/-- if any candidate is unsigned, mis-signed, lacks a key or is denied, the merge returns an error -/
theorem join_rejects (l : Log) (E H : List Entry) (size : Int) (valid : Entry → Bool)
    (hbad : ∃ e ∈ difference E H l, valid e = false) : join l l.id E H size valid = .err :=
  join_err_of_invalid l l.id E H size valid rfl hbad

/-- a merge adds an entry only if it carries the log's id and passed verification and access control
    (by hash: content addressing identifies the entry) — also for size-bounded merges -/
theorem join_admits (l : Log) (otherId : Bytes) (E H : List Entry) (size : Int) (valid : Entry → Bool)
    (hE : (hashes E).Nodup) (l' : Log) (hj : join l otherId E H size valid = .ok l') :
    ∀ e ∈ l'.entries, has l.entries e.hash = true ∨
      ∃ x ∈ E, x.hash = e.hash ∧ valid x = true ∧ x.logId = l.id :=
  join_admits_only_valid l otherId E H size valid hE l' hj

/-- every head of the merged log is such an entry as well (no head that was not admitted) -/
theorem join_heads_admitted (l : Log) (E H : List Entry) (valid : Entry → Bool) (hE : (hashes E).Nodup)
    (hv : (difference E H l).any (fun e => !valid e) = false) :
    ∀ e ∈ (joinMerge l E H).heads, Admitted l E valid e.hash :=
  (joinMerge_admitted l E H valid hE hv).2

/-- **no foreign object becomes a head** (repair 17): whatever entries and head OBJECTS the other log
    hands over — unverified, under hashes this log already holds, carrying other log ids, consistent or
    not — and whatever the bound, every head of the merged log is one of the entry objects the merged log
    holds (its own, or a candidate that was admitted), not merely an object with the hash of one. -/
theorem join_heads_are_held_entries (l l' : Log) (otherId : Bytes) (E H : List Entry) (size : Int) (valid : Entry → Bool)
    (hdh : ∀ x ∈ l.heads, x ∈ l.entries) (hj : join l otherId E H size valid = .ok l') :
    ∀ x ∈ l'.heads, x ∈ l'.entries := by
  rcases join_ok hj with ⟨_, rfl⟩ | ⟨_, _, rfl⟩
  · exact hdh
  show ∀ x ∈ (joinTrim (joinMerge l E H) size).heads, x ∈ (joinTrim (joinMerge l E H) size).entries
  by_cases hs : size > -1
  · exact joinTrim_heads_held _ hs
  · rw [joinTrim_of_not _ hs]
    exact joinMerge_heads_held hdh

/-- a log of a different id is never merged -/
theorem join_other_id (l : Log) (otherId : Bytes) (E H : List Entry) (size : Int) (valid : Entry → Bool)
    (hid : l.id ≠ otherId) : join l otherId E H size valid = .ok l :=
  Model.join_other_id l otherId E H size valid hid

/-- an append the controller denies: the clock has advanced (log.go l.331) but entries and heads are
    unchanged -/
def appendDenied (l : Log) (pc : Int) : Log := { l with clock := (appendPlan l pc).clock }

theorem append_denied_unchanged (l : Log) (pc : Int) :
    (appendDenied l pc).entries = l.entries ∧ (appendDenied l pc).heads = l.heads ∧
    (appendDenied l pc).nextIdx = l.nextIdx := ⟨rfl, rfl, rfl⟩

/-! ### every entry produced by `Append` verifies, under every codec configuration

`CreateEntryWithIO` sets the key, runs the codec's `PreSign` (identity for the default codec, absent
for the legacy codec, link encryption otherwise), signs `toBuffer`, then sets signature, identity and
hash.  `Verify` runs the same `PreSign` on the finished entry and checks the signature over
`toBuffer`.  `PreSign` reads only (next, refs, key, payload, clock, log id, version) and writes only
the two additional-data values, so it commutes with setting the signature. -/

open Model.Json in
structure Codec where
  /-- `none`: the codec has no `PreSign` (legacy); `some f`: default (`f = id`) or link-encrypting -/
  preSign : Option (Hashable → Bytes → Hashable)   -- hashable fields and the entry key
  /-- what is signed does not depend on anything `PreSign` does not read -/
  idem : ∀ f, preSign = some f → ∀ h k, f (f h k) k = f h k

open Model.Json Model.Sign in
/-- the signed bytes of an entry with hashable fields `h` and key `k` under a codec -/
def signedBytes (c : Codec) (h : Hashable) (k : Bytes) : Bytes :=
  match c.preSign with
  | none => toBuffer h
  | some f => toBuffer (f h k)

open Model.Json Model.Sign in
/-- creation followed by verification: the entry stored after creation has the pre-signed fields;
    verification pre-signs again and checks the signature made at creation -/
theorem append_verifies (C : Crypto) (c : Codec) (sk : C.SK) (h : Hashable) (k : Bytes) :
    let created : Hashable := match c.preSign with | none => h | some f => f h k
    let sig := C.sign sk (signedBytes c h k)
    C.verify (C.pub sk) (signedBytes c created k) sig = true := by
  intro created sig
  have hb : signedBytes c created k = signedBytes c h k := by
    unfold signedBytes
    cases hp : c.preSign with
    | none => simp [created, hp]
    | some f => simp [created, hp, c.idem f hp h k]
  rw [hb]
  exact (C.verify_iff (C.pub sk) (signedBytes c h k) sig).mpr ⟨sk, rfl, rfl⟩

/-! non-vacuity -/
example : ∃ c : Codec, c.preSign = none := ⟨⟨none, by intro f h; cases h⟩, rfl⟩
example : ∃ c : Codec, ∃ f, c.preSign = some f := ⟨⟨some (fun h _ => h), by intro f h; cases h; intros; rfl⟩, _, rfl⟩

end Model.C06
