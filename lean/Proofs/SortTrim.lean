import Proofs.Sort
/-!
# Proofs.SortTrim — the loaders' sort-and-trim does not see what the limited fetch cut

If `R ⊆ A` are duplicate-free, every `a ∈ A` is in `R` or has at least `n` members of `R` with a strictly larger
clock time (`cntGt`), and `lt` is a strict total order on `A` that puts larger times later, then
`lastN n (sort R) = lastN n (sort A)` (`lastN_sort_eq`).  With `A` the full closure and `R` the result of any
accepted execution this is the independence of the loaded log from concurrency and arrival order.  The proof
counts: in a sorted list the last `n` are the members with fewer than `n` members after them (`mem_lastN_iff`).
-/
namespace Model

theorem countP_le_of_subset {α : Type} {p : α → Bool} {S T : List α} (hS : S.Nodup)
    (hsub : ∀ y ∈ S, p y = true → y ∈ T) : S.countP p ≤ T.countP p := by
  rw [List.countP_eq_length_filter, List.countP_eq_length_filter]
  refine (hS.sublist List.filter_sublist).length_le_of_subset fun y hy => ?_
  obtain ⟨h1, h2⟩ := List.mem_filter.mp hy
  exact List.mem_filter.mpr ⟨hsub y h1 h2, h2⟩

def cntGt : List Entry → Int → Nat
  | [], _ => 0
  | r :: rs, t => (if r.clock.time > t then 1 else 0) + cntGt rs t
def cntGe : List Entry → Int → Nat
  | [], _ => 0
  | r :: rs, t => (if r.clock.time ≥ t then 1 else 0) + cntGe rs t

theorem cntGt_eq_countP (rs : List Entry) (t : Int) : cntGt rs t = rs.countP (fun r => decide (r.clock.time > t)) := by
  induction rs with
  | nil => rfl
  | cons x xs ih => rw [cntGt, ih, List.countP_cons, Nat.add_comm]; simp only [decide_eq_true_eq]

theorem cntGe_eq_countP (rs : List Entry) (t : Int) : cntGe rs t = rs.countP (fun r => decide (r.clock.time ≥ t)) := by
  induction rs with
  | nil => rfl
  | cons x xs ih => rw [cntGe, ih, List.countP_cons, Nat.add_comm]; simp only [decide_eq_true_eq]

theorem cntGt_append (a b : List Entry) (t : Int) : cntGt (a ++ b) t = cntGt a t + cntGt b t := by
  simp only [cntGt_eq_countP, List.countP_append]
theorem cntGe_append (a b : List Entry) (t : Int) : cntGe (a ++ b) t = cntGe a t + cntGe b t := by
  simp only [cntGe_eq_countP, List.countP_append]
theorem cntGt_all {rs : List Entry} {t : Int} (h : ∀ r ∈ rs, r.clock.time > t) : cntGt rs t = rs.length := by
  rw [cntGt_eq_countP, List.countP_eq_length]; exact fun r hr => decide_eq_true (h r hr)
theorem cntGe_all {rs : List Entry} {t : Int} (h : ∀ r ∈ rs, r.clock.time ≥ t) : cntGe rs t = rs.length := by
  rw [cntGe_eq_countP, List.countP_eq_length]; exact fun r hr => decide_eq_true (h r hr)
theorem cntGe_le_cntGt_of_lt (rs : List Entry) {t u : Int} (h : u < t) : cntGe rs t ≤ cntGt rs u := by
  rw [cntGe_eq_countP, cntGt_eq_countP]
  exact List.countP_mono_left (fun r _ hr => decide_eq_true (Int.lt_of_lt_of_le h (of_decide_eq_true hr)))
theorem cntGt_mono_time (rs : List Entry) {t u : Int} (h : u ≤ t) : cntGt rs t ≤ cntGt rs u := by
  simp only [cntGt_eq_countP]
  exact List.countP_mono_left (fun r _ hr => decide_eq_true (Int.lt_of_le_of_lt h (of_decide_eq_true hr)))

theorem cntGt_le_length_filter (R : List Entry) (t : Int) (p : Entry → Bool) :
    cntGt R t ≤ cntGt (R.filter (fun e => !p e)) t + (R.filter p).length := by
  rw [cntGt_eq_countP, cntGt_eq_countP, ← (List.filter_append_perm p R).countP_eq, List.countP_append, Nat.add_comm]
  exact Nat.add_le_add_left List.countP_le_length _

theorem cntGt_mono_subset {R R' : List Entry} (hR : R.Nodup) (hsub : ∀ r ∈ R, r ∈ R') (t : Int) :
    cntGt R t ≤ cntGt R' t := by
  rw [cntGt_eq_countP, cntGt_eq_countP]
  exact countP_le_of_subset hR fun r hr _ => hsub r hr

theorem lastN_eq_drop (n : Int) (S : List Entry) : lastN n S = S.drop (S.length - n.toNat) := by
  fun_cases lastN n S
  · rw [Int.toNat_of_nonpos ‹_›, Nat.sub_zero, List.drop_length]
  · rw [Nat.sub_eq_zero_of_le (Int.ofNat_le.mp (Int.le_trans ‹_› n.self_le_toNat)), List.drop_zero]
  · rfl

theorem lastN_sublist (n : Int) (S : List Entry) : (lastN n S).Sublist S :=
  lastN_eq_drop n S ▸ List.drop_sublist _ _

theorem lastN_length (n : Int) (S : List Entry) : (lastN n S).length = min n.toNat S.length := by
  rw [lastN_eq_drop, List.length_drop, Nat.sub_sub_eq_min, Nat.min_comm]

theorem sublist_goSort_ext {lt : Entry → Entry → Bool} {A S T L₁ L₂ : List Entry} (hsto : STO lt (· ∈ A))
    (hasym : ∀ a b, a ∈ A → b ∈ A → lt a b = true → lt b a = false)
    (hS : S.Nodup) (hSA : ∀ a ∈ S, a ∈ A) (hT : T.Nodup) (hTA : ∀ a ∈ T, a ∈ A)
    (h1 : L₁.Sublist (goSort lt S)) (h2 : L₂.Sublist (goSort lt T)) (hm : ∀ x, x ∈ L₁ ↔ x ∈ L₂) : L₁ = L₂ := by
  have n1 : L₁.Nodup := ((goSort_perm lt S).nodup_iff.mpr hS).sublist h1
  have n2 : L₂.Nodup := ((goSort_perm lt T).nodup_iff.mpr hT).sublist h2
  exact sorted_perm_eq (S := (· ∈ A)) (fun a b ha hb _ => hasym a b ha hb)
    ((goSort_sorted hsto S hSA hS).sublist h1) ((goSort_sorted hsto T hTA hT).sublist h2)
    ((List.perm_ext_iff_of_nodup n1 n2).mpr hm) fun a ha => hSA a (mem_goSort.mp (h1.subset ha))

theorem filter_goSort {lt : Entry → Entry → Bool} {A S : List Entry} (hsto : STO lt (· ∈ A))
    (hasym : ∀ a b, a ∈ A → b ∈ A → lt a b = true → lt b a = false)
    (hS : S.Nodup) (hsub : ∀ a ∈ S, a ∈ A) (p : Entry → Bool) :
    (goSort lt S).filter p = goSort lt (S.filter p) :=
  sublist_goSort_ext hsto hasym hS hsub (hS.sublist List.filter_sublist)
    (fun a ha => hsub a (List.mem_filter.mp ha).1) List.filter_sublist (List.Sublist.refl _)
    fun x => by simp only [List.mem_filter, mem_goSort]

/-- how many members of `S` come after `x` -/
def above (lt : Entry → Entry → Bool) (S : List Entry) (x : Entry) : Nat := S.countP (fun y => lt x y)

theorem above_lt_length {lt : Entry → Entry → Bool} {S : List Entry} {x : Entry} (hx : x ∈ S)
    (hasym : lt x x = true → lt x x = false) : above lt S x < S.length := by
  -- `hasym`: asymmetry at `(x, x)`, the shape the callers have it in; it says `x` does not count itself
  rw [above, List.countP_eq_length_filter]
  exact List.length_filter_lt_length_iff_exists.mpr ⟨x, hx, fun h => Bool.false_ne_true ((hasym h).symm.trans h)⟩

theorem mem_drop_iff_above {lt : Entry → Entry → Bool} {S : List Entry} (hsorted : S.Pairwise (fun a b => lt a b = true))
    (hasym : ∀ a b, a ∈ S → b ∈ S → lt a b = true → lt b a = false) (k : Nat) {x : Entry} (hx : x ∈ S) :
    x ∈ S.drop k ↔ above lt S x < S.length - k := by
  have hpw : ∀ p ∈ S.take k, ∀ t ∈ S.drop k, lt p t = true := by
    rw [← List.take_append_drop k S, List.pairwise_append] at hsorted
    exact hsorted.2.2
  have habove : above lt S x = above lt (S.take k) x + above lt (S.drop k) x := by
    unfold above
    rw [← List.countP_append, List.take_append_drop]
  rw [habove, ← List.length_drop]
  constructor
  · intro hd
    have h1 : above lt (S.take k) x = 0 := List.countP_eq_zero.mpr fun p hp => by
      rw [hasym p x (List.mem_of_mem_take hp) hx (hpw p hp x hd)]
      exact Bool.false_ne_true
    rw [h1, Nat.zero_add]
    exact above_lt_length hd (hasym x x hx hx)
  · intro hlt
    rw [← List.take_append_drop k S] at hx
    refine (List.mem_append.mp hx).resolve_left fun hxt => Nat.not_le_of_lt hlt ?_
    rw [← List.countP_eq_length.mpr (hpw x hxt)]
    exact Nat.le_add_left _ _

theorem mem_lastN_iff {lt : Entry → Entry → Bool} {S : List Entry} (hsorted : S.Pairwise (fun a b => lt a b = true))
    (hasym : ∀ a b, a ∈ S → b ∈ S → lt a b = true → lt b a = false) (n : Int) {x : Entry} (hx : x ∈ S) :
    x ∈ lastN n S ↔ (above lt S x : Int) < n := by
  rw [lastN_eq_drop, mem_drop_iff_above hsorted hasym _ hx, Nat.sub_sub_eq_min, Nat.lt_min,
    and_iff_right (above_lt_length hx (hasym x x hx hx)), Int.lt_toNat]

theorem above_le_of_subset {lt : Entry → Entry → Bool} {S T : List Entry} {x : Entry} (hS : S.Nodup)
    (hsub : ∀ y ∈ S, lt x y = true → y ∈ T) : above lt S x ≤ above lt T x :=
  countP_le_of_subset hS hsub

theorem cntGt_le_above {lt : Entry → Entry → Bool} {R : List Entry} {x : Entry} {t : Int}
    (h : ∀ r ∈ R, r.clock.time > t → lt x r = true) : cntGt R t ≤ above lt R x := by
  rw [cntGt_eq_countP]
  exact List.countP_mono_left fun r hr hp => h r hr (of_decide_eq_true hp)

theorem mem_lastN_goSort {lt : Entry → Entry → Bool} {A S : List Entry} (hsto : STO lt (· ∈ A))
    (hasym : ∀ a b, a ∈ A → b ∈ A → lt a b = true → lt b a = false) (hS : S.Nodup) (hSA : ∀ a ∈ S, a ∈ A)
    (n : Int) (x : Entry) : x ∈ lastN n (goSort lt S) ↔ x ∈ S ∧ (above lt S x : Int) < n := by
  have key : x ∈ goSort lt S → (x ∈ lastN n (goSort lt S) ↔ (above lt S x : Int) < n) := fun hx => by
    rw [mem_lastN_iff (goSort_sorted hsto S hSA hS)
      (fun a b ha hb => hasym a b (hSA a (mem_goSort.mp ha)) (hSA b (mem_goSort.mp hb))) n hx]
    unfold above
    rw [(goSort_perm lt S).countP_eq]
  exact ⟨fun hx => ⟨mem_goSort.mp ((lastN_sublist n _).subset hx), (key ((lastN_sublist n _).subset hx)).mp hx⟩,
    fun ⟨hx, hlt⟩ => (key (mem_goSort.mpr hx)).mpr hlt⟩

theorem lastN_sort_eq {lt : Entry → Entry → Bool} {U A R : List Entry} {n : Int}
    (hsto : STO lt (· ∈ U)) (hasym : ∀ a b, a ∈ U → b ∈ U → lt a b = true → lt b a = false)
    (htime : ∀ a b, a ∈ U → b ∈ U → a.clock.time < b.clock.time → lt a b = true)
    (hAU : ∀ a ∈ A, a ∈ U) (hA : A.Nodup) (hR : R.Nodup) (hsub : ∀ r ∈ R, r ∈ A)
    (hcut : ∀ a ∈ A, a ∈ R ∨ n ≤ (cntGt R a.clock.time : Int)) :
    lastN n (goSort lt R) = lastN n (goSort lt A) := by
  have hRU : ∀ r ∈ R, r ∈ U := fun r hr => hAU r (hsub r hr)
  refine sublist_goSort_ext hsto hasym hR hRU hA hAU (lastN_sublist n _) (lastN_sublist n _) fun x => ?_
  rw [mem_lastN_goSort hsto hasym hR hRU, mem_lastN_goSort hsto hasym hA hAU]
  constructor
  · rintro ⟨hxR, hlt⟩
    refine ⟨hsub x hxR, Int.lt_of_le_of_lt (Int.ofNat_le.mpr (above_le_of_subset hA fun y hy hxy => ?_)) hlt⟩
    -- a cut `y` after `x` would have `n` members of `R` after it, hence after `x`
    refine (hcut y hy).resolve_right fun h1 => ?_
    have := cntGt_le_above (x := x) fun r hr hgt =>
      hsto.trans x y r (hRU x hxR) (hAU y hy) (hRU r hr) hxy (htime y r (hAU y hy) (hRU r hr) hgt)
    omega
  · rintro ⟨hxA, hlt⟩
    have hRA : above lt R x ≤ above lt A x := above_le_of_subset hR (fun y hy _ => hsub y hy)
    refine ⟨(hcut x hxA).resolve_right fun h1 => ?_, by omega⟩
    have := cntGt_le_above fun r hr hgt => htime x r (hAU x hxA) (hRU r hr) hgt
    omega

end Model
