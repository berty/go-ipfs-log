import Proofs.Join
/-!
# Proofs.Admit — what a (possibly size-bounded) `Join` can add to a log (C06)
-/
namespace Model

/-- what a join of the candidates `E` into `l` may leave in the log -/
def Admitted (l : Log) (E : List Entry) (valid : Entry → Bool) (h : Hash) : Prop :=
  has l.entries h = true ∨ ∃ x ∈ E, x.hash = h ∧ valid x = true ∧ x.logId = l.id

theorem joinMerge_admitted (l : Log) (E H : List Entry) (valid : Entry → Bool) (hE : (hashes E).Nodup)
    (hv : (difference E H l).any (fun e => !valid e) = false) :
    (∀ e ∈ (joinMerge l E H).entries, Admitted l E valid e.hash) ∧
    (∀ e ∈ (joinMerge l E H).heads, Admitted l E valid e.hash) := by
  obtain ⟨hs, _, _⟩ := difference_general E H l hE
  have hvalid : ∀ e ∈ difference E H l, valid e = true := fun e he => by
    simpa using List.any_eq_false.mp hv e he
  have hent : ∀ e ∈ (joinMerge l E H).entries, Admitted l E valid e.hash := fun e he =>
    (mem_foldl_omSet _ _ e he).imp has_of_mem fun h => ⟨e, (hs e h).1, rfl, hvalid e h, (hs e h).2.2⟩
  refine ⟨hent, fun e he => ?_⟩
  obtain ⟨x, hx, hxh⟩ := has_iff.mp (joinMerge_heads_has he)
  exact hxh ▸ hent x hx

/-- C06: whatever a successful join leaves in the log was there before or is a candidate that
    carries the log's id and passed verification and access control — for every size bound -/
theorem join_admits_only_valid (l : Log) (otherId : Bytes) (E H : List Entry) (size : Int) (valid : Entry → Bool)
    (hE : (hashes E).Nodup) (l' : Log) (hj : join l otherId E H size valid = .ok l') :
    ∀ e ∈ l'.entries, Admitted l E valid e.hash := by
  rcases join_ok hj with ⟨_, rfl⟩ | ⟨_, hv, rfl⟩
  · exact fun e he => Or.inl (has_of_mem he)
  obtain ⟨hent, hheads⟩ := joinMerge_admitted l E H valid hE hv
  intro e (he : e ∈ (joinTrim (joinMerge l E H) size).entries)
  by_cases hs : size > -1
  · -- a bounded join keeps some of the values of the merged log
    rw [joinTrim_entries _ hs, keepLast_eq_drop hs] at he
    exact values_closed (joinMerge l E H) (fun x => Admitted l E valid x.hash) hent hheads e
      (List.mem_of_mem_drop (mem_omFromList he))
  · rw [joinTrim_of_not _ hs] at he
    exact hent e he

end Model
