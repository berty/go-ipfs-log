import Model.Loaders
import Proofs.Sort
import Proofs.OMap
/-!
# Proofs.LoadersUnbounded — the four loaders of `Model.Loaders` without a length limit

With `n = -1` no loader trims: the loaded log's entry map is the fetched list (manifest, entry hash),
the fetched list sorted by clock (JSON), or the de-duplicated union of the supplied and the fetched
entries sorted by clock (entries).  In every case the *set of hashes* is that of the fetch result, and
the log id is the one the loader was given (the last entry's log id for `NewFromEntry`).  `loadEntries_tail`
is the end of `NewFromEntry` shared with the limited case (`C10.load_entries_limited_exact`).
-/
namespace Model

theorem loadManifest_neg_one (clockId : Bytes) (k k' : SortKind) (id : Bytes) (mheads : List Hash)
    (fetched : List Entry) :
    loadManifest clockId k k' id mheads fetched (-1) =
      newLog id clockId k fetched (fetched.filter fun e => mheads.contains e.hash) := rfl

theorem loadEntryHash_neg_one (clockId : Bytes) (k : SortKind) (id : Bytes) (fetched : List Entry) :
    loadEntryHash clockId k id fetched (-1) = newLog id clockId k fetched [] := rfl

theorem loadJSON_neg_one (clockId : Bytes) (k : SortKind) (id : Bytes) (fetched : List Entry) :
    loadJSON clockId k id fetched (-1) = newLog id clockId k (goSort clockAsc fetched) [] := rfl

theorem newLog_entries_of_nodup (id clockId : Bytes) (k : SortKind) {ents : List Entry} (heads : List Entry)
    (hn : (hashes ents).Nodup) : (newLog id clockId k ents heads).entries = ents := omFromList_eq_self hn

theorem entryDifference_nil (a b : List Entry) (hsub : ∀ v ∈ b, has a v.hash = true) : entryDifference a b = [] := by
  unfold entryDifference
  induction b with
  | nil => rfl
  | cons v t ih =>
    rw [List.foldl_cons, hsub v List.mem_cons_self, Bool.true_or, if_pos rfl]
    exact ih fun x hx => hsub x (List.mem_cons_of_mem _ hx)

theorem loadEntries_tail {sliced source : List Entry} (hkeep : ∀ v ∈ source, v.hash ∈ hashes sliced)
    (hne : source ≠ []) :
    entryDifference sliced source = [] ∧ ∃ lastE ∈ sliced, sliced.getLast? = some lastE := by
  obtain ⟨v, hv⟩ := List.exists_mem_of_ne_nil source hne
  obtain ⟨e, he, _⟩ := mem_hashes.mp (hkeep v hv)
  exact ⟨entryDifference_nil _ _ (fun v hv => has_iff_mem_hashes.mpr (hkeep v hv)),
    _, List.getLast_mem (List.ne_nil_of_mem he), List.getLast?_eq_some_getLast _⟩

theorem loadEntries_unbounded_eq (clockId : Bytes) (k : SortKind) (source fetched : List Entry)
    (hne : source ≠ []) :
    ∃ lastE ∈ goSort clockAsc (omFromList (source ++ fetched)),
      loadEntries clockId k source fetched (-1) =
        some (newLog lastE.logId clockId k (goSort clockAsc (omFromList (source ++ fetched))) []) := by
  obtain ⟨hdiff, lastE, hmem, hl⟩ := loadEntries_tail (sliced := goSort clockAsc (omFromList (source ++ fetched)))
    (fun v hv => by
      rw [mem_hashes_goSort, mem_hashes_omFromList, hashes_append]
      exact List.mem_append_left _ (List.mem_map_of_mem hv)) hne
  refine ⟨lastE, hmem, ?_⟩
  unfold loadEntries
  simp only [show ¬ ((-1 : Int) > -1) by decide, if_false, hdiff, List.nil_append, List.length_nil, List.drop_zero, hl]

theorem loadEntries_unbounded (clockId : Bytes) (k : SortKind) (source fetched : List Entry)
    (hne : source ≠ []) :
    ∃ l, loadEntries clockId k source fetched (-1) = some l ∧
      l.entries = goSort clockAsc (omFromList (source ++ fetched)) ∧
      (∀ h, h ∈ hashes l.entries ↔ h ∈ hashes source ∨ h ∈ hashes fetched) ∧
      (∃ last ∈ l.entries, l.id = last.logId) := by
  obtain ⟨lastE, hmem, heq⟩ := loadEntries_unbounded_eq clockId k source fetched hne
  have hent := newLog_entries_of_nodup lastE.logId clockId k []
    (goSort_hashes_nodup clockAsc (omFromList_nodup (source ++ fetched)))
  refine ⟨_, heq, hent, fun h => ?_, lastE, by rw [hent]; exact hmem, rfl⟩
  rw [hent, mem_hashes_goSort, mem_hashes_omFromList, hashes_append, List.mem_append]

end Model
