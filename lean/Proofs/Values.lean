import Proofs.Join
/-!
# Proofs.Values — `Values()` is a complete, duplicate-free, causally ordered, sorted linearisation
and depends only on the entry set (C03, and the value parts of C01 / C05)
-/
namespace Model

/-- the configured ordering is a strict total order on the entries present:
    always for the hash tie-break, for the default ordering when no two entries tie;
    first-write-wins reverses clock time and is not a causal ordering -/
def OrderOk (k : SortKind) (E : List Entry) : Prop :=
  match k with
  | .byHash => True
  | .lww => ∀ a ∈ E, ∀ b ∈ E, a ≠ b → keyNe a b
  | .fww => False

theorem orderOk_sto {k : SortKind} {E : List Entry} (hnd : (hashes E).Nodup) (ho : OrderOk k E) :
    STO (before k) (· ∈ E) := by
  cases k with
  | byHash => exact ltHash_STO E fun _ ha _ hb hne hh => hne (eq_of_hash_eq hnd ha hb hh)
  | lww => exact ltLWW_STO E ho
  | fww => exact ho.elim

theorem orderOk_asymm {k : SortKind} {E : List Entry} (ho : OrderOk k E) :
    ∀ a b, a ∈ E → b ∈ E → a ≠ b → before k a b = true → before k b a = false := by
  cases k with
  | byHash => exact fun a b _ _ _ h => ltHash_asymm h
  | lww => exact fun a b ha hb hne h => ltLWW_asymm (ho a ha b hb hne) h
  | fww => exact ho.elim

theorem orderOk_time {k : SortKind} {E : List Entry} (ho : OrderOk k E) {e p : Entry}
    (h : p.clock.time < e.clock.time) : before k e p = true := by
  have hne : ¬ e.clock.time = p.clock.time := by omega
  have hnl : ¬ e.clock.time < p.clock.time := by omega
  cases k with
  | byHash => simp [before, SortKind.cmp, cmpHash, clockCompare, hne, hnl]
  | lww => simp [before, SortKind.cmp, cmpLWW, clockCompare, hne, hnl]
  | fww => exact ho.elim

theorem orderOk_mono {k : SortKind} {E F : List Entry} (hs : ∀ x ∈ E, x ∈ F) (ho : OrderOk k F) : OrderOk k E := by
  cases k with
  | byHash => trivial
  | lww => exact fun a ha b hb hne => ho a (hs a ha) b (hs b hb) hne
  | fww => exact ho.elim

theorem ctxG_of_inv {U : List Entry} {l : Log} (I : Inv U l) (ho : OrderOk l.sortFn l.entries) :
    CtxG l.entries (before l.sortFn) where
  nodupH := I.nodup
  sto := orderOk_sto I.nodup ho
  mono := fun e he c hc p hp => orderOk_time ho (I.mono e he c hc p hp)

theorem traverse_heads_spec {U : List Entry} {l : Log} (I : Inv U l) (ho : OrderOk l.sortFn l.entries) :
    let out := traverse l.entries (before l.sortFn) l.heads
    out.Pairwise (fun a b => before l.sortFn a b = true) ∧ out.Nodup ∧ out.Perm l.entries := by
  intro out
  obtain ⟨hs, hnd, hmem⟩ := traverse_general (ctxG_of_inv I ho) I.headsIn
  refine ⟨hs, hnd, (List.perm_ext_iff_of_nodup hnd (nodup_of_hashes_nodup I.nodup)).mpr fun x => ⟨fun hx => ?_, fun hx => ?_⟩⟩
  · obtain ⟨_, _, hd⟩ := (hmem x).mp hx
    exact hd.mem_right
  · exact (hmem x).mpr (every_entry_below_some_head I x hx)

theorem values_perm {U : List Entry} {l : Log} (I : Inv U l) (ho : OrderOk l.sortFn l.entries) :
    (values l).Perm l.entries := by
  unfold values
  exact (List.reverse_perm _).trans (traverse_heads_spec I ho).2.2

theorem values_nodup {U : List Entry} {l : Log} (I : Inv U l) (ho : OrderOk l.sortFn l.entries) :
    (values l).Nodup := (values_perm I ho).nodup_iff.mpr (nodup_of_hashes_nodup I.nodup)

theorem values_sorted {U : List Entry} {l : Log} (I : Inv U l) (ho : OrderOk l.sortFn l.entries) :
    (values l).Pairwise (fun a b => before l.sortFn b a = true) := by
  unfold values
  rw [List.pairwise_reverse]
  exact (traverse_heads_spec I ho).1

theorem values_causal {U : List Entry} {l : Log} (I : Inv U l) (ho : OrderOk l.sortFn l.entries) :
    (values l).Pairwise (fun a b => b.hash ∉ a.next) := by
  have hp := values_perm I ho
  refine ((values_sorted I ho).and (values_nodup I ho)).imp_of_mem ?_
  intro a b ha hb ⟨hba, hne⟩ hmem
  have haE := hp.mem_iff.mp ha
  have hbE := hp.mem_iff.mp hb
  -- a predecessor has the smaller time, so it is ordered the other way round
  have hab := orderOk_time ho (I.time_lt haE hbE hmem)
  rw [orderOk_asymm ho a b haE hbE hne hab] at hba
  cases hba

theorem sorted_unique {k : SortKind} {E : List Entry} (ho : OrderOk k E) {l₁ l₂ : List Entry}
    (h1 : l₁.Pairwise (fun a b => before k a b = true)) (h2 : l₂.Pairwise (fun a b => before k a b = true))
    (hp : l₁.Perm l₂) (hin : ∀ x ∈ l₁, x ∈ E) : l₁ = l₂ :=
  sorted_perm_eq (orderOk_asymm ho) h1 h2 hp hin

theorem values_sublist {U : List Entry} {l l' : Log} (I : Inv U l) (I' : Inv U l')
    (hk : l.sortFn = l'.sortFn) (ho' : OrderOk l'.sortFn l'.entries)
    (hsub : ∀ x ∈ l.entries, x ∈ l'.entries) : (values l).Sublist (values l') := by
  have ho : OrderOk l.sortFn l.entries := by rw [hk]; exact orderOk_mono hsub ho'
  -- the old traversal is the new one filtered to the old entries: both are sorted lists of the same members
  obtain ⟨s1, n1, p1⟩ := traverse_heads_spec I ho
  obtain ⟨s2, n2, p2⟩ := traverse_heads_spec I' ho'
  let out := traverse l.entries (before l.sortFn) l.heads
  let out' := traverse l'.entries (before l'.sortFn) l'.heads
  let f := out'.filter (fun x => decide (x ∈ l.entries))
  have hf_sub : f.Sublist out' := List.filter_sublist
  have hf_sorted : f.Pairwise (fun a b => before l.sortFn a b = true) := by
    rw [hk]; exact s2.sublist hf_sub
  have hf_nodup : f.Nodup := n2.sublist hf_sub
  have hperm : out.Perm f := (List.perm_ext_iff_of_nodup n1 hf_nodup).mpr fun x => by
    rw [List.mem_filter, p1.mem_iff, p2.mem_iff, decide_eq_true_iff]
    exact ⟨fun hx => ⟨hsub x hx, hx⟩, And.right⟩
  have heq : out = f := sorted_unique ho s1 hf_sorted hperm (fun x hx => p1.mem_iff.mp hx)
  unfold values
  show out.reverse.Sublist out'.reverse
  rw [heq]
  exact hf_sub.reverse

theorem values_fn_of_set {U : List Entry} {l₁ l₂ : Log} (I₁ : Inv U l₁) (I₂ : Inv U l₂)
    (hk : l₁.sortFn = l₂.sortFn) (ho : OrderOk l₁.sortFn l₁.entries)
    (hE : l₁.entries.Perm l₂.entries) : values l₁ = values l₂ := by
  have ho2 : OrderOk l₂.sortFn l₂.entries := hk ▸ orderOk_mono (fun x hx => hE.mem_iff.mpr hx) ho
  -- each is a subsequence of the other
  exact (values_sublist I₁ I₂ hk ho2 fun x => hE.mem_iff.mp).eq_of_length_le
    (values_sublist I₂ I₁ hk.symm ho fun x => hE.mem_iff.mpr).length_le

theorem inv_convergence {U : List Entry} (hU : (hashes U).Nodup) {a b : Log} (Ia : Inv U a) (Ib : Inv U b)
    (hH : ∀ h, h ∈ hashes a.entries ↔ h ∈ hashes b.entries) :
    a.entries.Perm b.entries ∧ (∀ x, x ∈ a.heads ↔ x ∈ b.heads) ∧
      (a.sortFn = b.sortFn → OrderOk a.sortFn a.entries → values a = values b) := by
  have hE := mem_iff_of_hashes hU Ia.inU Ib.inU hH
  have hperm : a.entries.Perm b.entries :=
    (List.perm_ext_iff_of_nodup (nodup_of_hashes_nodup Ia.nodup) (nodup_of_hashes_nodup Ib.nodup)).mpr hE
  exact ⟨hperm, heads_fn_of_set Ia Ib hE, fun hsf ho => values_fn_of_set Ia Ib hsf ho hperm⟩

end Model
