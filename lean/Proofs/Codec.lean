import Model.Codec
import Proofs.Cbor
/-!
# Proofs.Codec — hex / base64 round trips, `ToPlain ∘ ToJsonable`, link encryption, no panic while decoding

The conversions of `Model.Codec` are chains of matches on `Outcome`s.  They are handled through closed forms:
`jV2Of e` is the serialisable value of an entry whose byte fields hold bytes (`jsonOf_ge2`, `jsonOf_v1`) and
`toPlain_jV2Of_with` reads it back; `storedJ C k ref e` is what is stored under a link key (`storedView_eq`), and
`decryptLinks_same_key` / `decryptLinks_other_key` say what the two kinds of reader get from it.  That nothing panics
on decoded values goes through `Outcome.bind_ne_panic` and `Outcome.ite_ne_panic` and, where the model matches on an
`Outcome` by hand, by splitting the matches.
-/
namespace Model.Codec
open Model Model.Cbor

theorem hexVal_hexDigit : ∀ n, n < 16 → hexVal (hexDigit n) = some n := by decide

theorem hexDecode_hexEncode (b : Bytes) (h : isBytes b = true) : hexDecode (hexEncode b) = some b := by
  induction b with
  | nil => rfl
  | cons a t ih =>
    obtain ⟨ha, ht⟩ := (isBytes_cons a t).mp h
    simp only [hexEncode, hexDecode, hexVal_hexDigit (a / 16) (by omega), hexVal_hexDigit (a % 16) (by omega), ih ht,
      Nat.div_add_mod']

theorem b64Val_b64Char : ∀ n, n < 64 → b64Val (b64Char n) = some n := by decide

theorem b64Char_ne_pad : ∀ n, n < 64 → b64Char n ≠ 61 := by decide

theorem b64Char_ge (n : Nat) : 43 ≤ b64Char n := by
  fun_cases b64Char n
  all_goals omega

/-- the alphabet starts at `+` = 43: the encoder writes no LF or CR, which is all that `b64dec` filters out -/
theorem b64enc_ge (b : Bytes) : ∀ c ∈ b64enc b, 43 ≤ c := by
  induction b using b64enc.induct with
  | case1 a b c t ih => simpa [b64enc, b64Char_ge] using ih
  | case2 a b => simp [b64enc, b64Char_ge]
  | case3 a => simp [b64enc, b64Char_ge]
  | case4 => simp [b64enc]

/-- three bytes split into four sextets and come back (`b = c = 0` for the padded groups) -/
theorem sextets {a b c : Nat} (ha : a < 256) (hb : b < 256) (hc : c < 256) :
    a / 4 < 64 ∧ a % 4 * 16 + b / 16 < 64 ∧ b % 16 * 4 + c / 64 < 64 ∧ c % 64 < 64 ∧
    a / 4 * 4 + (a % 4 * 16 + b / 16) / 16 = a ∧ (a % 4 * 16 + b / 16) % 16 * 16 + (b % 16 * 4 + c / 64) / 4 = b ∧
    (b % 16 * 4 + c / 64) % 4 * 64 + c % 64 = c := by omega

theorem b64decCore_b64enc (b : Bytes) (h : isBytes b = true) : b64decCore (b64enc b) = some b := by
  induction b using b64enc.induct with
  | case1 a b c t ih =>
    simp only [isBytes_cons] at h
    obtain ⟨h1, h2, h3, h4, e1, e2, e3⟩ := sextets h.1 h.2.1 h.2.2.1
    simp only [b64enc, b64decCore, if_neg (b64Char_ne_pad _ h4), b64Val_b64Char _ h1, b64Val_b64Char _ h2,
      b64Val_b64Char _ h3, b64Val_b64Char _ h4, ih h.2.2.2, e1, e2, e3]
  | case2 a b =>
    simp only [isBytes_cons] at h
    obtain ⟨h1, h2, h3, -, e1, e2, -⟩ := sextets h.1 h.2.1 (show 0 < 256 by decide)
    simp only [Nat.zero_div, Nat.add_zero] at h3 e2
    simp only [b64enc, b64decCore, if_true, ne_eq, not_true_eq_false, if_false, if_neg (b64Char_ne_pad _ h3),
      b64Val_b64Char _ h1, b64Val_b64Char _ h2, b64Val_b64Char _ h3, e1, e2]
  | case3 a =>
    simp only [isBytes_cons] at h
    obtain ⟨h1, h2, -, -, e1, -, -⟩ := sextets h.1 (show 0 < 256 by decide) (show 0 < 256 by decide)
    simp only [Nat.zero_div, Nat.add_zero] at h2 e1
    simp only [b64enc, b64decCore, if_true, ne_eq, not_true_eq_false, if_false, b64Val_b64Char _ h1, b64Val_b64Char _ h2, e1]
  | case4 => rfl

theorem b64dec_b64enc (b : Bytes) (h : isBytes b = true) : b64dec (b64enc b) = some b := by
  unfold b64dec
  rw [List.filter_eq_self.mpr, b64decCore_b64enc b h]
  intro c hc
  have := b64enc_ge b c hc
  simp
  omega

theorem b64enc_ne_nil (b : Bytes) (h : b ≠ []) : b64enc b ≠ [] := by
  match b, h with
  | [_], _ => simp [b64enc]
  | [_, _], _ => simp [b64enc]
  | _ :: _ :: _ :: _, _ => simp [b64enc]

namespace Outcome
variable {α β : Type} {o : Outcome α} {f : α → Outcome β}

@[simp] theorem ok_bind (a : α) : (ok a).bind f = f a := rfl

@[simp] theorem err_bind (e : Err) : (err e : Outcome α).bind f = err e := rfl

theorem bind_ne_panic (ho : o ≠ .panic) (hf : ∀ a, o = .ok a → f a ≠ .panic) : o.bind f ≠ .panic := by
  cases o with
  | ok a => exact hf a rfl
  | err e => nofun
  | panic => exact absurd rfl ho

theorem ite_ne_panic {c : Prop} [Decidable c] {a b : Outcome α} (ha : a ≠ .panic) (hb : b ≠ .panic) :
    (if c then a else b) ≠ .panic := by
  split <;> assumption

theorem bind_eq_ok {b : β} (h : o.bind f = .ok b) : ∃ a, o = .ok a ∧ f a = .ok b := by
  cases o with
  | ok a => exact ⟨a, rfl, h⟩
  | err e => nomatch h
  | panic => nomatch h

end Outcome

def PIdentity.encodable (i : PIdentity) : Prop :=
  isBytes i.publicKey = true ∧ ∃ s, i.signatures = some s ∧ isBytes s.id = true ∧ isBytes s.publicKey = true

/-- the byte-string fields that go through `encoding/hex` hold bytes, the clock is set and an
    identity (if any) has its signatures: what `CreateEntry` produces and what `ToPlain` returns -/
def PEntry.encodable (e : PEntry) : Prop :=
  isBytes e.key = true ∧ isBytes e.sig = true ∧ (∃ c, e.clock = some c ∧ isBytes c.id = true) ∧
  ∀ i, e.identity = some i → i.encodable

/-- the entry does not carry the two additional-data values of an encrypted-links entry -/
def noEncLinks (e : PEntry) : Prop := lookup addKeyLinks e.add = none ∨ lookup addKeyNonce e.add = none

def jSigOf (s : PSig) : JSig := { id := hexEncode s.id, publicKey := hexEncode s.publicKey }

def jIdOf (i : PIdentity) : JIdentity :=
  { id := i.id, publicKey := hexEncode i.publicKey, typ := i.typ, signatures := i.signatures.map jSigOf }

def jClockOf (c : Clock) : JClock := { id := hexEncode c.id, time := c.time }

/-- the serialisable form of an entry without encrypted links, `V ≥ 2` -/
def jV2Of (e : PEntry) : JEntry :=
  { v := e.v, logId := e.logId, key := hexEncode e.key, sig := hexEncode e.sig, next := e.next, refs := e.refs,
    clock := e.clock.map jClockOf, payload := e.payload, identity := e.identity.map jIdOf }

theorem toPlainIdentity_jIdOf (i : PIdentity) (h : i.encodable) : toPlainIdentity (jIdOf i) = .ok i := by
  obtain ⟨hpk, s, hs, hsi, hsp⟩ := h
  simp only [toPlainIdentity, jIdOf, hs, Option.map, jSigOf, toPlainSig, hexDecode_hexEncode _ hpk, hexDecode_hexEncode _ hsi,
    hexDecode_hexEncode _ hsp]
  cases i
  cases hs
  rfl

theorem toPlainIdentityOpt_jIdOf (o : Option PIdentity) (h : ∀ i, o = some i → i.encodable) :
    toPlainIdentityOpt (o.map jIdOf) = .ok o := by
  cases o with
  | none => rfl
  | some i => simp only [Option.map, toPlainIdentityOpt, toPlainIdentity_jIdOf i (h i rfl)]

theorem toJsonableIdentityOpt_eq (o : Option PIdentity) (h : ∀ i, o = some i → i.encodable) :
    toJsonableIdentityOpt o = .ok (o.map jIdOf) := by
  cases o with
  | none => rfl
  | some i =>
    obtain ⟨_, s, hs, _, _⟩ := h i rfl
    simp [toJsonableIdentityOpt, toJsonableIdentity, toJsonableSig, hs, jIdOf, jSigOf]

theorem jsonOf_ge2 (cidStr : Bytes → Bytes) (e : PEntry) (hv : 2 ≤ e.v) (h : e.encodable) :
    jsonOf cidStr e = .ok (.v2 (match lookup addKeyLinks e.add, lookup addKeyNonce e.add with
      | some el, some en => { jV2Of e with encLinks := el, encNonce := en, next := some [], refs := some [] }
      | _, _ => jV2Of e)) := by
  obtain ⟨_, _, ⟨c, hc, _⟩, hi⟩ := h
  have hv0 : ¬ e.v = 0 := by omega
  have hv1 : ¬ e.v = 1 := by omega
  have hv2 : e.v > 1 := by omega
  simp only [jsonOf, normalize, hc, Outcome.ok_bind, toJsonableEntry, toJsonableIdentityOpt_eq _ hi, toJsonableClock, hv0, hv1, hv2,
    if_true, if_false, jV2Of, Option.map, jClockOf]
  cases lookup addKeyLinks e.add <;> cases lookup addKeyNonce e.add <;> simp

theorem jsonOf_v2 (cidStr : Bytes → Bytes) (e : PEntry) (hv : 2 ≤ e.v) (h : e.encodable) (ha : noEncLinks e) :
    jsonOf cidStr e = .ok (.v2 (jV2Of e)) := by
  rw [jsonOf_ge2 cidStr e hv h]
  rcases ha with ha | ha <;> simp [ha]

theorem jsonOf_v1 (cidStr : Bytes → Bytes) (e : PEntry) (hv : e.v = 1) (h : e.encodable) :
    jsonOf cidStr e = .ok (.v1 { jV2Of e with refs := none }) := by
  obtain ⟨_, _, ⟨c, hc, _⟩, hi⟩ := h
  simp [jsonOf, normalize, hc, toJsonableEntry, toJsonableIdentityOpt_eq _ hi, toJsonableClock, hv,
    jV2Of, Option.map, jClockOf]

theorem toPlain_jV2Of_with (e : PEntry) (h : e.encodable) (nx rf : Option (List Bytes)) (el en : Bytes) :
    toPlainEntry { jV2Of e with next := nx, refs := rf, encLinks := el, encNonce := en } =
      .ok { e with next := nx, refs := rf, hash := none, add := [] } := by
  obtain ⟨hk, hs, ⟨c, hc, hci⟩, hi⟩ := h
  simp only [toPlainEntry, jV2Of, hc, Option.map_some, jClockOf, hexDecode_hexEncode _ hk, hexDecode_hexEncode _ hs, toPlainClock,
    hexDecode_hexEncode _ hci, toPlainIdentityOpt_jIdOf _ hi]

theorem toPlain_jV2Of (e : PEntry) (h : e.encodable) : toPlainEntry (jV2Of e) = .ok { e with hash := none, add := [] } :=
  toPlain_jV2Of_with e h e.next e.refs [] []

theorem decodeRaw_cborEntry (C : Crypto) (k : Option Bytes) (hh : Bytes) (j : JEntry) (hw : j.wf) :
    decodeRawEntry C k hh (cborEntry j) = decodeJEntry C k hh j := by
  simp only [decodeRawEntry, entry_roundtrip j hw]

theorem decodeRaw_cborEntryV1 (C : Crypto) (k : Option Bytes) (hh : Bytes) (j : JEntry) (hw : j.wf) :
    decodeRawEntry C k hh (cborEntryV1 j) = decodeJEntry C k hh { j with refs := none, encLinks := [], encNonce := [] } := by
  simp only [decodeRawEntry, entryV1_roundtrip j hw]

theorem jsonOf_add_congr (cidStr : Bytes → Bytes) (e : PEntry) (a1 a2 : List (Bytes × Bytes))
    (h : ∀ k, lookup k a1 = lookup k a2) :
    jsonOf cidStr { e with add := a1 } = jsonOf cidStr { e with add := a2 } := by
  simp only [jsonOf, normalize]
  cases e.clock with
  | none => rfl
  | some c =>
    simp only [Outcome.ok_bind, toJsonableEntry, h]

theorem hexEncode_length (b : Bytes) : (hexEncode b).length = 2 * b.length := by
  induction b with
  | nil => rfl
  | cons a t ih => simp [hexEncode, ih]; omega

def PSig.fits (s : PSig) : Prop := 2 * s.id.length < two64 ∧ 2 * s.publicKey.length < two64

def PIdentity.fits (i : PIdentity) : Prop :=
  i.id.length < two64 ∧ 2 * i.publicKey.length < two64 ∧ i.typ.length < two64 ∧ ∀ s, i.signatures = some s → s.fits

/-- `V` is a `uint64`, the clock time an `int64`, every string/slice length (after hex encoding) is
    below 2^64 — true of every value a Go program can hold -/
def PEntry.fits (e : PEntry) : Prop :=
  e.v < two64 ∧ e.logId.length < two64 ∧ 2 * e.key.length < two64 ∧ 2 * e.sig.length < two64 ∧
  linksWf e.next ∧ linksWf e.refs ∧
  (∀ c, e.clock = some c → 2 * c.id.length < two64 ∧ -9223372036854775808 ≤ c.time ∧ c.time < 9223372036854775808) ∧
  e.payload.length < two64 ∧ (∀ i, e.identity = some i → i.fits)

theorem jV2Of_wf (e : PEntry) (h : e.fits) : (jV2Of e).wf := by
  obtain ⟨h1, h2, h3, h4, h5, h6, h7, h8, h9⟩ := h
  refine ⟨h1, h2, ?_, ?_, h5, h6, ?_, h8, ?_, by simp [jV2Of, two64], by simp [jV2Of, two64]⟩
  · simpa [jV2Of, hexEncode_length] using h3
  · simpa [jV2Of, hexEncode_length] using h4
  · simpa [jV2Of, jClockOf, JClock.wf, hexEncode_length] using h7
  · simpa [jV2Of, jIdOf, jSigOf, JIdentity.wf, JSig.wf, PIdentity.fits, PSig.fits, hexEncode_length] using h9

/-! `uniq` against the translated loop of `uniqueCIDs`: `Model.SlicesGen.uniq_eq_dedup` (Props/GenCommon.lean). -/

theorem uniq_sublist (l : List Bytes) : (uniq l).Sublist l := by
  induction l with
  | nil => exact .slnil
  | cons a t ih => exact (List.filter_sublist.trans ih).cons_cons a

theorem uniq_nodup (l : List Bytes) : (uniq l).Nodup := by
  induction l with
  | nil => exact .nil
  | cons a t ih => exact List.nodup_cons.mpr ⟨by simp, ih.filter _⟩

theorem uniq_eq_self {l : List Bytes} (h : l.Nodup) : uniq l = l := by
  induction l with
  | nil => rfl
  | cons a t ih =>
    obtain ⟨h1, h2⟩ := List.nodup_cons.mp h
    rw [uniq, ih h2, List.filter_eq_self.mpr]
    intro x hx
    simpa using fun hxa : x = a => h1 (hxa ▸ hx)

theorem linksWf_uniqOpt (o : Option (List Bytes)) (h : linksWf o) : linksWf (uniqOpt o) := by
  cases o with
  | none => simp [uniqOpt, uniq, linksWf, two64]
  | some l =>
    obtain ⟨h1, h2⟩ := h
    exact ⟨Nat.lt_of_le_of_lt (uniq_sublist l).length_le h1, fun c hc => h2 c ((uniq_sublist l).subset hc)⟩

theorem linksDefined_uniqOpt (o : Option (List Bytes)) (h : linksDefined o = true) : linksDefined (uniqOpt o) = true := by
  cases o with
  | none => simp [uniqOpt, uniq, linksDefined]
  | some l =>
    simp only [linksDefined, List.all_eq_true, uniqOpt, Option.getD_some] at h ⊢
    exact fun c hc => h c ((uniq_sublist l).subset hc)

theorem linksBytes_uniqOpt (o : Option (List Bytes)) (h : linksBytes o) : linksBytes (uniqOpt o) := by
  cases o with
  | none => exact fun _ hc => nomatch hc
  | some l => exact fun c hc => h c ((uniq_sublist l).subset hc)

theorem uniqOpt_idem (o : Option (List Bytes)) : uniqOpt (uniqOpt o) = uniqOpt o :=
  congrArg some (uniq_eq_self (uniq_nodup _))

theorem lenOpt_uniqOpt_zero (o : Option (List Bytes)) : lenOpt (uniqOpt o) = 0 ↔ lenOpt o = 0 := by
  rcases o with _ | _ | _ <;> simp [uniqOpt, uniq, lenOpt]

theorem lookup_upsert_same (k v : Bytes) (a : List (Bytes × Bytes)) : lookup k (upsert k v a) = some v := by
  induction a with
  | nil => simp [upsert, lookup]
  | cons p t ih => by_cases h : p.1 = k <;> simp [upsert, h, lookup, ih]

theorem lookup_upsert_other (k k2 v : Bytes) (a : List (Bytes × Bytes)) (hne : k2 ≠ k) :
    lookup k2 (upsert k v a) = lookup k2 a := by
  induction a with
  | nil => simp [upsert, lookup, Ne.symm hne]
  | cons p t ih =>
    simp only [upsert]
    split
    · next h => simp [lookup, h, Ne.symm hne]
    · simp [lookup, ih]

theorem addKeys_ne : addKeyLinks ≠ addKeyNonce := by decide

theorem hasTag42List_links (l : List Bytes) : hasTag42List (l.map linkItem) = !l.isEmpty := by
  cases l with
  | nil => simp [hasTag42List]
  | cons a t => simp [hasTag42List, hasTag42, linkItem]

theorem hasTag42_linksItem (o : Option (List Bytes)) : hasTag42 (linksItem o) = decide (lenOpt o ≠ 0) := by
  rcases o with _ | _ | _ <;> simp [linksItem, hasTag42, lenOpt, hasTag42List, linkItem]

theorem hasTag42_clockItem (o : Option JClock) : hasTag42 (clockItem o) = false := by
  cases o with
  | none => simp [clockItem, hasTag42]
  | some c =>
    simp only [clockItem, hasTag42, hasTag42Map, intItem]
    split <;> simp [hasTag42]

theorem hasTag42_sigItem (o : Option JSig) : hasTag42 (sigItem o) = false := by
  cases o <;> simp [sigItem, hasTag42, hasTag42Map]

theorem hasTag42_identityItem (o : Option JIdentity) : hasTag42 (identityItem o) = false := by
  cases o <;> simp [identityItem, hasTag42, hasTag42Map, hasTag42_sigItem]

theorem hasTag42Map_append (a b : List (Bytes × Item)) : hasTag42Map (a ++ b) = (hasTag42Map a || hasTag42Map b) := by
  induction a with
  | nil => simp [hasTag42Map]
  | cons p t ih =>
    obtain ⟨k, v⟩ := p
    simp [hasTag42Map, ih, Bool.or_assoc]

/-- the plaintext that is sealed: the whole `EntryV2` struct with only `next`/`refs` set -/
def linksBlock (e : PEntry) : Bytes := cborEntry { next := uniqOpt e.next, refs := uniqOpt e.refs }

/-- the serialisable value stored for an entry created with link key `k` (`ref` = nonce reference) -/
def storedJ (C : Crypto) (k ref : Bytes) (e : PEntry) : JEntry :=
  { jV2Of (copyEntry e) with
    next := some [], refs := some [],
    encLinks := b64enc (C.sealBox k (C.deriveNonce ref) (linksBlock e)),
    encNonce := b64enc (C.deriveNonce ref) }

/-- what the theorems about link encryption assume of the entry: version 2 (what `CreateEntry`
    sets), at least one link, a clock, hex-able byte fields, defined links -/
structure LinkEntry (e : PEntry) : Prop where
  hv : 2 ≤ e.v
  hlinks : lenOpt e.next ≠ 0 ∨ lenOpt e.refs ≠ 0
  henc : e.encodable
  hdefN : linksDefined e.next = true
  hdefR : linksDefined e.refs = true
  hwfN : linksWf e.next
  hwfR : linksWf e.refs
  hbN : linksBytes e.next
  hbR : linksBytes e.refs

theorem copyEntry_encodable (e : PEntry) (h : e.encodable) : (copyEntry e).encodable := h

/-- what `PreSign` returns: the copy, with the sealed links and the nonce in the additional data -/
def preSignedOf (C : Crypto) (k ref : Bytes) (e : PEntry) : PEntry :=
  { copyEntry e with
    add := upsert addKeyNonce (b64enc (C.deriveNonce ref))
             (upsert addKeyLinks (b64enc (C.sealBox k (C.deriveNonce ref) (linksBlock e))) e.add) }

theorem preSign_ok (C : Crypto) (cidStr : Bytes → Bytes) (k : Bytes) (e : PEntry) (h : LinkEntry e) :
    ∃ ref, nonceRef cidStr (copyEntry e) = .ok ref ∧ preSign C cidStr (some k) e = .ok (preSignedOf C k ref e) := by
  obtain ⟨_, _, ⟨c, hc, _⟩, _⟩ := h.henc
  have hc' : (copyEntry e).clock = some c := hc
  have hnl : ¬ (lenOpt e.next = 0 ∧ lenOpt e.refs = 0) := fun ⟨hn, hr⟩ => h.hlinks.elim (· hn) (· hr)
  have hd : (linksDefined (uniqOpt e.next) && linksDefined (uniqOpt e.refs)) = true := by
    simp [linksDefined_uniqOpt _ h.hdefN, linksDefined_uniqOpt _ h.hdefR]
  simp only [nonceRef, hc']
  refine ⟨_, rfl, ?_⟩
  simp only [preSign, hnl, if_false, copyEntry, hd, Bool.not_true, Bool.false_eq_true, nonceRef, hc, Outcome.ok_bind]
  simp [preSignedOf, copyEntry, linksBlock, hc]

theorem storedView_eq (C : Crypto) (cidStr : Bytes → Bytes) (k : Bytes) (e : PEntry) (h : LinkEntry e) :
    ∃ ref, storedView C cidStr (some k) e = .ok (.v2 (storedJ C k ref e)) := by
  obtain ⟨ref, -, hp⟩ := preSign_ok C cidStr k e h
  refine ⟨ref, ?_⟩
  rw [storedView, hp]
  refine (jsonOf_ge2 cidStr (preSignedOf C k ref e) h.hv h.henc).trans ?_
  simp only [preSignedOf, lookup_upsert_same, lookup_upsert_other _ _ _ _ addKeys_ne]
  rfl

theorem linksBlock_decode (e : PEntry) (hn : linksWf e.next) (hr : linksWf e.refs) :
    decodeEntry (linksBlock e) = some { next := uniqOpt e.next, refs := uniqOpt e.refs } :=
  entry_roundtrip _ (by simpa [JEntry.wf, two64] using ⟨linksWf_uniqOpt _ hn, linksWf_uniqOpt _ hr⟩)

theorem decryptLinks_storedJ (C : Crypto) (L : CryptoLaws C) (k k' ref : Bytes) (e : PEntry) (hk : keyOk k) (h : LinkEntry e) :
    decryptLinks C (some k') (storedJ C k ref e) =
      match C.openBox k' (C.deriveNonce ref) (C.sealBox k (C.deriveNonce ref) (linksBlock e)) with
      | none => .err .decrypt
      | some dec =>
        match decodeEntry dec with
        | none => .err .decrypt
        | some links => .ok { storedJ C k ref e with next := links.next, refs := links.refs } := by
  have hb : isBytes (linksBlock e) = true :=
    isBytes_cborEntry_links _ _ (linksBytes_uniqOpt _ h.hbN) (linksBytes_uniqOpt _ h.hbR)
  simp only [decryptLinks, storedJ, b64enc_ne_nil _ (L.seal_ne k _ _ hk), b64enc_ne_nil _ (L.nonce_ne _), or_self, if_false,
    b64dec_b64enc _ (L.seal_bytes k _ _ hk hb), b64dec_b64enc _ (L.nonce_bytes _)]
  -- the same matches, through the auxiliary matchers of `decryptLinks` on one side and of this statement on the other
  rfl

theorem decryptLinks_same_key (C : Crypto) (L : CryptoLaws C) (k ref : Bytes) (e : PEntry) (hk : keyOk k) (h : LinkEntry e) :
    decryptLinks C (some k) (storedJ C k ref e) =
      .ok { storedJ C k ref e with next := uniqOpt e.next, refs := uniqOpt e.refs } := by
  simp only [decryptLinks_storedJ C L k k ref e hk h, L.open_seal _ _ _ hk, linksBlock_decode e h.hwfN h.hwfR]

theorem decryptLinks_other_key (C : Crypto) (L : CryptoLaws C) (k k' ref : Bytes) (e : PEntry) (hk : keyOk k)
    (hk' : keyOk k') (hne : k ≠ k') (h : LinkEntry e) :
    decryptLinks C (some k') (storedJ C k ref e) = .err .decrypt := by
  simp only [decryptLinks_storedJ C L k k' ref e hk h, L.wrong_key _ _ _ _ hk hk' hne]

theorem decryptLinks_no_key (C : Crypto) (j : JEntry) : decryptLinks C none j = .ok j := rfl

theorem toPlain_storedJ_links (C : Crypto) (k ref : Bytes) (e : PEntry) (h : e.encodable) (nx rf : Option (List Bytes)) :
    toPlainEntry { storedJ C k ref e with next := nx, refs := rf } =
      .ok { e with next := nx, refs := rf, hash := none, add := [] } :=
  toPlain_jV2Of_with e h nx rf _ _

/-- the entry a reader with the same key obtains (`hh` = the block's CID) -/
def readBack (e : PEntry) (hh : Bytes) : PEntry :=
  { e with next := uniqOpt e.next, refs := uniqOpt e.refs, hash := some hh, add := [] }

theorem linkEntry_readBack (e : PEntry) (hh : Bytes) (h : LinkEntry e) : LinkEntry (readBack e hh) where
  hv := h.hv
  hlinks := by simpa only [readBack, ne_eq, lenOpt_uniqOpt_zero] using h.hlinks
  henc := h.henc
  hdefN := linksDefined_uniqOpt _ h.hdefN
  hdefR := linksDefined_uniqOpt _ h.hdefR
  hwfN := linksWf_uniqOpt _ h.hwfN
  hwfR := linksWf_uniqOpt _ h.hwfR
  hbN := linksBytes_uniqOpt _ h.hbN
  hbR := linksBytes_uniqOpt _ h.hbR

theorem preSign_readBack (C : Crypto) (cidStr : Bytes → Bytes) (k : Bytes) (e : PEntry) (hh : Bytes) (h : LinkEntry e)
    (hadd : e.add = []) :
    ∃ p, preSign C cidStr (some k) e = .ok p ∧
      preSign C cidStr (some k) (readBack e hh) = .ok { p with hash := some hh } := by
  obtain ⟨ref, hr, hp⟩ := preSign_ok C cidStr k e h
  obtain ⟨ref', hr', hp'⟩ := preSign_ok C cidStr k (readBack e hh) (linkEntry_readBack e hh h)
  have e1 : copyEntry (readBack e hh) = { copyEntry e with hash := some hh, add := [] } := by
    simp [copyEntry, readBack, uniqOpt_idem]
  -- the nonce reference does not read the hash or the additional data
  have e2 : nonceRef cidStr (copyEntry (readBack e hh)) = nonceRef cidStr (copyEntry e) := by
    rw [e1]; rfl
  cases hr.symm.trans (e2.symm.trans hr')
  refine ⟨_, hp, ?_⟩
  rw [hp']
  simp [preSignedOf, linksBlock, readBack, uniqOpt_idem, hadd, copyEntry]

theorem toHashable_hash_irrelevant (p : PEntry) (hh : Option Bytes) : toHashable { p with hash := hh } = toHashable p := rfl

theorem toPlainClock_total (c : JClock) : toPlainClock c ≠ .panic := by
  fun_cases toPlainClock c <;> nofun

theorem toPlainSig_total (s : JSig) : toPlainSig s ≠ .panic := by
  fun_cases toPlainSig s
  all_goals nofun

-- in each of these a leaf is an error, a value, or the panic of the one call that is matched on
theorem toPlainIdentity_total (i : JIdentity) : toPlainIdentity i ≠ .panic := by
  fun_cases toPlainIdentity i
  all_goals first | exact absurd ‹_› (toPlainSig_total _) | nofun

theorem toPlainIdentityOpt_total (o : Option JIdentity) : toPlainIdentityOpt o ≠ .panic := by
  fun_cases toPlainIdentityOpt o
  all_goals first | exact absurd ‹_› (toPlainIdentity_total _) | nofun

theorem decryptLinks_total (C : Crypto) (k : Option Bytes) (j : JEntry) : decryptLinks C k j ≠ .panic := by
  fun_cases decryptLinks C k j
  all_goals nofun

/-- what `ToPlain` guarantees of its result: the clock pointer is set, an identity has signatures -/
def safeEntry (e : PEntry) : Prop :=
  e.clock.isSome = true ∧ ∀ i, e.identity = some i → i.signatures.isSome = true

theorem toPlainIdentity_sigs (i : JIdentity) (p : PIdentity) (h : toPlainIdentity i = .ok p) : p.signatures.isSome = true := by
  unfold toPlainIdentity at h
  repeat' split at h
  all_goals cases h
  rfl

theorem toPlainIdentityOpt_sigs (o : Option JIdentity) (p : Option PIdentity) (h : toPlainIdentityOpt o = .ok p) :
    ∀ i, p = some i → i.signatures.isSome = true := by
  unfold toPlainIdentityOpt at h
  repeat' split at h
  all_goals cases h
  · nofun
  · rintro _ ⟨⟩
    exact toPlainIdentity_sigs _ _ ‹_›

theorem toPlainEntry_safe (j : JEntry) (e : PEntry) (h : toPlainEntry j = .ok e) : safeEntry e := by
  unfold toPlainEntry at h
  repeat' split at h
  all_goals cases h
  exact ⟨rfl, toPlainIdentityOpt_sigs _ _ ‹_›⟩

theorem toJsonableIdentityOpt_safe (o : Option PIdentity) (h : ∀ i, o = some i → i.signatures.isSome = true) :
    toJsonableIdentityOpt o ≠ .panic := by
  cases o with
  | none => nofun
  | some i =>
    obtain ⟨s, hs⟩ := Option.isSome_iff_exists.mp (h i rfl)
    simp [toJsonableIdentityOpt, toJsonableIdentity, toJsonableSig, hs]

theorem jsonOf_safe (cidStr : Bytes → Bytes) (e : PEntry) (h : safeEntry e) : jsonOf cidStr e ≠ .panic := by
  obtain ⟨c, hc⟩ := Option.isSome_iff_exists.mp h.1
  simp only [jsonOf, normalize, hc, Outcome.ok_bind, toJsonableEntry, toJsonableClock]
  refine Outcome.bind_ne_panic (toJsonableIdentityOpt_safe _ h.2) fun idn _ =>
    Outcome.ite_ne_panic nofun (Outcome.ite_ne_panic nofun ?_)
  split <;> nofun

theorem preSign_safe (C : Crypto) (cidStr : Bytes → Bytes) (k : Option Bytes) (e : PEntry) (h : e.clock.isSome = true) :
    preSign C cidStr k e ≠ .panic ∧ ∀ p, preSign C cidStr k e = .ok p → p.clock.isSome = true := by
  obtain ⟨c, hc⟩ := Option.isSome_iff_exists.mp h
  cases k with
  | none => simp [preSign, hc]
  | some k =>
    simp only [preSign]
    split
    · simp [hc]
    split
    · simp
    · simp [nonceRef, copyEntry, hc]

theorem toHashable_ne_panic {p : PEntry} (h : p.clock.isSome = true) : toHashable p ≠ .panic := by
  obtain ⟨c, hc⟩ := Option.isSome_iff_exists.mp h
  simp [toHashable, hc]

end Model.Codec
