import Proofs.Inv
/-!
# Proofs.Append — `Append` preserves the invariant; facts about the created entry (C04)

The created entry names exactly the heads and carries a clock time above every entry of the log (every entry
lies below a head), so after the append it is the only head.
-/
namespace Model

theorem sortedHeads_eq_goSort {l : Log} (hnd : (hashes l.heads).Nodup) : sortedHeads l = goSort (before l.sortFn) l.heads :=
  omFromList_eq_self (goSort_hashes_nodup _ hnd)

theorem mem_sortedHeads {l : Log} (hnd : (hashes l.heads).Nodup) {x : Entry} : x ∈ sortedHeads l ↔ x ∈ l.heads := by
  rw [sortedHeads_eq_goSort hnd]
  exact mem_goSort

theorem sortedHeads_nodup (l : Log) : (hashes (sortedHeads l)).Nodup := omFromList_nodup _

theorem mem_hashes_sortedHeads {l : Log} {x : Hash} : x ∈ hashes (sortedHeads l) ↔ x ∈ hashes l.heads := by
  rw [sortedHeads, mem_hashes_omFromList, mem_hashes_goSort]

theorem mem_jsonHeads {l : Log} {h : Hash} : h ∈ jsonHeads l ↔ h ∈ hashes l.heads :=
  mem_hashes_goSort _ _ h

theorem appendPlan_next_eq (l : Log) (pc : Int) : (appendPlan l pc).next = (hashes (sortedHeads l)).reverse := by
  show dedupHashes (hashes (sortedHeads l)).reverse [] = _
  rw [dedupHashes_eq_self _ [] (by simpa using (List.reverse_perm _).nodup_iff.mpr (sortedHeads_nodup l))]
  simp

theorem mem_appendPlan_next (l : Log) (pc : Int) {n : Hash} : n ∈ (appendPlan l pc).next ↔ n ∈ hashes l.heads := by
  rw [appendPlan_next_eq, List.mem_reverse, mem_hashes_sortedHeads]

theorem appendPlan_clock (l : Log) (pc : Int) :
    (appendPlan l pc).clock = { id := l.clock.id, time := max l.clock.time (maxTime (sortedHeads l) 0) + 1 } := rfl

theorem appendPlan_time_gt {U : List Entry} {l : Log} (I : Inv U l) (pc : Int) (x : Entry) (hx : x ∈ l.entries) :
    x.clock.time < (appendPlan l pc).clock.time := by
  obtain ⟨h, hh, hd⟩ := every_entry_below_some_head I x hx
  have h1 := hd.time_le I
  have h2 := le_maxTime (sortedHeads l) 0 h ((mem_sortedHeads I.headsNodup).mpr hh)
  have h3 := Int.le_max_right l.clock.time (maxTime (sortedHeads l) 0)
  show _ < max l.clock.time (maxTime (sortedHeads l) 0) + 1
  omega

theorem append_entries_of_fresh {U : List Entry} {l : Log} (I : Inv U l) (pc : Int) (h : Hash) (tag : Nat)
    (hfresh : h ∉ hashes U) : (append l pc h tag).2.entries = l.entries ++ [(append l pc h tag).1] :=
  omSet_of_not_has (has_false_iff_not_mem.mpr fun hh => hfresh (hashes_subset I.inU hh))

theorem append_hash (l : Log) (pc : Int) (h : Hash) (tag : Nat) : (append l pc h tag).1.hash = h := rfl

theorem append_next (l : Log) (pc : Int) (h : Hash) (tag : Nat) :
    (append l pc h tag).1.next = (appendPlan l pc).next := rfl

theorem append_snd_entries (l : Log) (pc : Int) (h : Hash) (tag : Nat) :
    (append l pc h tag).2.entries = omSet l.entries (append l pc h tag).1 := rfl

theorem append_snd_heads (l : Log) (pc : Int) (h : Hash) (tag : Nat) :
    (append l pc h tag).2.heads = [(append l pc h tag).1] := rfl

theorem append_hash_mem (l : Log) (pc : Int) (h : Hash) (tag : Nat) :
    h ∈ hashes (append l pc h tag).2.entries := by
  rw [append_snd_entries, ← has_iff_mem_hashes, has_omSet, append_hash]
  simp

theorem inv_append {U : List Entry} {l : Log} (I : Inv U l) (pc : Int) (h : Hash) (tag : Nat)
    (hfresh : h ∉ hashes U) :
    Inv (U ++ [(append l pc h tag).1]) (append l pc h tag).2 := by
  let e := (append l pc h tag).1
  have hE : (append l pc h tag).2.entries = l.entries ++ [e] := append_entries_of_fresh I pc h tag hfresh
  have hnamed : ∀ c, namedBy (l.entries ++ [e]) c ↔ namedBy l.entries c ∨ c ∈ hashes l.heads := fun c => by
    rw [namedBy_append, ← mem_appendPlan_next l pc]
    simp [namedBy, e, append]
  -- `l` holds what is named, so the fresh hash is not named
  have hnoth : ¬ namedBy (l.entries ++ [e]) h := fun hn =>
    hfresh (hashes_subset I.inU (((hnamed h).mp hn).elim (fun ⟨x, hx, hc⟩ => has_iff_mem_hashes.mp (I.closed x hx h hc))
      (hashes_subset I.headsIn)))
  refine I.extend (N := [e]) (fun _ => List.mem_append_left _) rfl (fun x => by rw [hE, List.mem_append]) (nodup_omSet I.nodup)
    ?new ?heads (List.pairwise_singleton _ _) ?nextIdx
  case new =>
    intro x hx
    rw [List.mem_singleton.mp hx]
    refine ⟨List.mem_append_right _ (List.mem_singleton_self e), rfl, fun n hn => ?_⟩
    -- the new entry names the heads, which `l` holds as older entries
    obtain ⟨p, hp, hpn⟩ := mem_hashes.mp ((mem_appendPlan_next l pc).mp hn)
    exact ⟨p, hE ▸ List.mem_append_left _ (I.headsIn p hp), hpn, appendPlan_time_gt I pc p (I.headsIn p hp)⟩
  case heads =>
    intro x
    rw [append_snd_heads, hE, List.mem_singleton]
    refine ⟨fun hx => ?_, fun ⟨hx, hn⟩ => ?_⟩
    · rw [hx]
      exact ⟨Or.inr ⟨rfl, fun hn => hnoth (namedBy_append.mpr (Or.inr hn))⟩, hnoth⟩
    · exact hx.elim (fun hxl => absurd ((hnamed _).mpr (Or.inr (List.mem_map_of_mem hxl))) hn) And.left
  case nextIdx =>
    intro x
    show x ∈ e.next.foldl hsSet l.nextIdx ↔ _
    rw [hE, mem_foldl_hsSet, hnamed, I.nextIdx, ← mem_appendPlan_next l pc]
    rfl

end Model
