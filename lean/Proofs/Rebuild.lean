import Proofs.Values
/-!
# Proofs.Rebuild — a log rebuilt by `NewLog` from the entries of a replica is that replica again
(the step from "the fetch returns the source's entry set" to "same heads, same values", C09)
-/
namespace Model

theorem inv_transfer {U : List Entry} {l L : Log} (I : Inv U l)
    (hid : L.id = l.id)
    (hE : ∀ x, x ∈ L.entries ↔ x ∈ l.entries) (hnd : (hashes L.entries).Nodup)
    (hH : ∀ x, x ∈ L.heads ↔ x ∈ l.heads) (hHnd : (hashes L.heads).Nodup)
    (hN : ∀ h, h ∈ L.nextIdx ↔ namedBy L.entries h) : Inv U L :=
  Inv.of_mem (fun e he => I.inU e ((hE e).mp he)) hnd
    (fun e he _ hn => (I.pred ((hE e).mp he) hn).imp fun p hp => ⟨(hE p).mpr hp.1, hp.2⟩)
    (fun x => by rw [hH, I.mem_heads, hE, namedBy_congr hE])
    hHnd hN (fun e he => hid ▸ I.logId e ((hE e).mp he))

theorem newLog_rebuilds {U : List Entry} (hU : (hashes U).Nodup) {l : Log} (I : Inv U l)
    (ents heads : List Entry) (cid : Bytes) (k : SortKind)
    (hin : ∀ e ∈ ents, e ∈ U)
    (hset : ∀ h, h ∈ hashes ents ↔ h ∈ hashes l.entries)
    (hheads : heads = [] ∨ ((hashes heads).Nodup ∧ ∀ x, x ∈ heads ↔ x ∈ l.heads)) :
    let L := newLog l.id cid k ents heads
    Inv U L ∧ L.id = l.id ∧ (∀ x, x ∈ L.entries ↔ x ∈ l.entries) ∧ (∀ x, x ∈ L.heads ↔ x ∈ l.heads) := by
  intro L
  have hents := mem_iff_of_hashes hU hin I.inU hset
  have hE : ∀ x, x ∈ omFromList ents ↔ x ∈ l.entries := fun x => (mem_omFromList_iff hU hin).trans (hents x)
  have hfind : ∀ x, x ∈ findHeads (omFromList ents) ↔ x ∈ l.heads := fun x => by
    rw [mem_findHeads, hE, namedBy_congr hE, I.mem_heads]
  have hH : ∀ x, x ∈ (if heads.length = 0 ∧ (omFromList ents).length > 0 then findHeads (omFromList ents) else heads) ↔
      x ∈ l.heads := by
    intro x
    split
    · exact hfind x
    · rename_i hc
      rcases hheads with rfl | ⟨_, hm⟩
      · -- no heads given and no entries: recomputing the heads would give none either
        have hempty : omFromList ents = [] := List.eq_nil_of_length_eq_zero (by simpa using hc)
        have := hfind x
        rwa [hempty] at this
      · exact hm x
  have hLH : ∀ x, x ∈ L.heads ↔ x ∈ l.heads := fun x =>
    (mem_omFromList_iff hU fun y hy => I.inU y (I.headsIn y ((hH y).mp hy))).trans (hH x)
  exact ⟨inv_transfer I rfl hE (omFromList_nodup ents) hLH (omFromList_nodup _) fun h =>
    (mem_foldl_nextIdx _ [] h).trans (or_iff_right List.not_mem_nil), rfl, hE, hLH⟩

theorem newLog_values {U : List Entry} (hU : (hashes U).Nodup) {l : Log} (I : Inv U l)
    (ents heads : List Entry) (cid : Bytes)
    (hin : ∀ e ∈ ents, e ∈ U)
    (hset : ∀ h, h ∈ hashes ents ↔ h ∈ hashes l.entries)
    (hheads : heads = [] ∨ ((hashes heads).Nodup ∧ ∀ x, x ∈ heads ↔ x ∈ l.heads))
    (ho : OrderOk l.sortFn l.entries) :
    values (newLog l.id cid l.sortFn ents heads) = values l := by
  obtain ⟨hInv, _, hE, _⟩ := newLog_rebuilds hU I ents heads cid l.sortFn hin hset hheads
  exact values_fn_of_set hInv I rfl (orderOk_mono (fun x hx => (hE x).mp hx) ho)
    ((List.perm_ext_iff_of_nodup (nodup_of_hashes_nodup hInv.nodup) (nodup_of_hashes_nodup I.nodup)).mpr hE)

end Model
