import Model.Log
/-!
# Proofs.DiffCount — the counting measure of the `difference` worklist on stacks of hashes

`cntUn`, `unmarked`, `allNext`, and `PushSpec`: a specification of the inner loop of `difference` (`diffPush` folded
over the predecessors `cs`) whose field `measure` says that stack length + unmarked `next` positions does not grow;
`foldl_next_len` and `unmarked_le` bound that measure by the fuel `difference` is given.  `PushSpec` is only stated, not
shown to hold of `diffPush`.

Stand-alone: `Proofs/OMap.lean` defines `Model.unmarked` (a `countP`) and `Proofs/Difference.lean` `Model.PushSpec`
under the same full names with other bodies, so this file cannot be imported together with them, and no proof uses it.
-/
namespace Model

def allNext (EA : List Entry) : List Hash := EA.flatMap (·.next)

def cntUn (trav : List Hash) : List Hash → Nat
  | [] => 0
  | a :: as => (if a ∈ trav then 0 else 1) + cntUn trav as

def unmarked (EA : List Entry) (trav : List Hash) : Nat := cntUn trav (allNext EA)

theorem foldl_next_len (EA : List Entry) (n : Nat) :
    EA.foldl (fun n e => n + e.next.length) n = n + (allNext EA).length := by
  induction EA generalizing n with
  | nil => simp [allNext]
  | cons a as ih => simp only [List.foldl_cons, ih, allNext, List.flatMap_cons, List.length_append]; omega

theorem cntUn_le (trav : List Hash) : ∀ l, cntUn trav l ≤ l.length
  | [] => by simp [cntUn]
  | a :: as => by
    have := cntUn_le trav as
    simp only [cntUn, List.length_cons]; split <;> omega

theorem unmarked_le (EA : List Entry) (trav : List Hash) : unmarked EA trav ≤ (allNext EA).length :=
  cntUn_le trav _

structure PushSpec (EA EB : List Entry) (cs : List Hash) (st st' : List Hash × List Hash) : Prop where
  stack_mono : ∀ x ∈ st.1, x ∈ st'.1
  trav_mono : ∀ x ∈ st.2, x ∈ st'.2
  marked : ∀ c ∈ cs, has EB c = false → c ∈ st'.2
  trav_new : ∀ x ∈ st'.2, x ∈ st.2 ∨ x ∈ st'.1
  stack_new : ∀ x ∈ st'.1, x ∈ st.1 ∨ x ∈ cs
  measure : st'.1.length + cntUn st'.2 (allNext EA) ≤ st.1.length + cntUn st.2 (allNext EA)

end Model
