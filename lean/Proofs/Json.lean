import Model.Json
/-!
# Proofs.Json — the signed bytes determine the signed view, and nothing more

Every encoder of `Model.Json` is shown injective by exhibiting a reader that undoes it:
`encodeRune` for `runeOf`, `hexVal` for `hexDigit`, `parseTok` for `encTok` (one token, whatever follows:
the escaped text is a prefix code); `natDec` is core's `Nat.toDigits 10`.  What an encoder determines is said
as an equivalence with a tail on both sides, `enc a ++ r₁ = enc b ++ r₂ ↔ view a = view b ∧ r₁ = r₂`
(`goJsonString_iff`, `natDec_iff`, `jsonArr_iff`, `jsonObj_iff`), so that a composite encoder is handled by
unfolding it and rewriting with the equivalences of its parts; `toBuffer_iff` is the last of these.
-/
namespace Model.Json

open Model

/-- induction along the rune loop: every step continues on some `rest.drop k` -/
theorem drop_induct {P : Bytes → Prop} (nil : P []) (cons : ∀ b0 rest, (∀ k, P (rest.drop k)) → P (b0 :: rest)) :
    ∀ bs, P bs
  | [] => nil
  | b0 :: rest => cons b0 rest (fun k => drop_induct nil cons (rest.drop k))
termination_by bs => bs.length
decreasing_by rw [List.length_drop, List.length_cons]; omega

theorem tokensF_eq_tokens : ∀ (bs : Bytes) (f : Nat), bs.length ≤ f → tokensF f bs = tokens bs := by
  intro bs
  induction bs using drop_induct with
  | nil => intro f _; cases f <;> rfl
  | cons b0 rest ih =>
    intro f hf
    cases f with
    | zero => exact absurd hf (Nat.not_succ_le_zero _)
    | succ f =>
      have key (k : Nat) : tokensF f (rest.drop k) = tokensF rest.length (rest.drop k) := by
        have hl : (rest.drop k).length ≤ rest.length := by rw [List.length_drop]; omega
        rw [ih k f (Nat.le_trans hl (Nat.le_of_succ_le_succ hf)), ih k rest.length hl]
      rw [tokens, List.length_cons, tokensF, tokensF]
      cases decodeRune b0 rest with
      | none => exact congrArg _ (key 0)
      | some raw => exact congrArg _ (key _)

@[simp] theorem tokens_nil : tokens [] = [] := rfl

theorem tokens_cons (b0 : Nat) (rest : Bytes) :
    tokens (b0 :: rest) =
      match decodeRune b0 rest with
      | some raw => .lit raw :: tokens (rest.drop (raw.length - 1))
      | none => .bad :: tokens rest := by
  rw [tokens, List.length_cons, tokensF]
  cases decodeRune b0 rest with
  | none => rfl
  | some raw => exact congrArg _ (tokensF_eq_tokens _ _ (by rw [List.length_drop]; omega))

theorem acceptLo_spec (b0 : Nat) :
    0x80 ≤ acceptLo b0 ∧ (b0 = 0xE0 → acceptLo b0 = 0xA0) ∧ (b0 = 0xF0 → acceptLo b0 = 0x90) := by
  unfold acceptLo; split <;> (try split) <;> omega

theorem acceptHi_spec (b0 : Nat) :
    acceptHi b0 ≤ 0xBF ∧ (b0 = 0xED → acceptHi b0 = 0x9F) ∧ (b0 = 0xF4 → acceptHi b0 = 0x8F) := by
  unfold acceptHi; split <;> (try split) <;> omega

theorem validSeq1 {b : Nat} : validSeq [b] = true ↔ b < 0x80 := by
  simp only [validSeq, decide_eq_true_eq]

theorem validSeq2 {b0 b1 : Nat} (h : validSeq [b0, b1] = true) :
    0xC2 ≤ b0 ∧ b0 < 0xE0 ∧ 0x80 ≤ b1 ∧ b1 < 0xC0 := by
  simp only [validSeq, isCont, Bool.and_eq_true, decide_eq_true_eq] at h
  omega

theorem validSeq3 {b0 b1 b2 : Nat} (h : validSeq [b0, b1, b2] = true) :
    0xE0 ≤ b0 ∧ b0 < 0xF0 ∧ 0x80 ≤ b1 ∧ b1 < 0xC0 ∧ (b0 = 0xE0 → 0xA0 ≤ b1) ∧ (b0 = 0xED → b1 ≤ 0x9F)
      ∧ 0x80 ≤ b2 ∧ b2 < 0xC0 := by
  simp only [validSeq, isCont, Bool.and_eq_true, decide_eq_true_eq] at h
  have := acceptLo_spec b0
  have := acceptHi_spec b0
  omega

theorem validSeq4 {b0 b1 b2 b3 : Nat} (h : validSeq [b0, b1, b2, b3] = true) :
    0xF0 ≤ b0 ∧ b0 < 0xF5 ∧ 0x80 ≤ b1 ∧ b1 < 0xC0 ∧ (b0 = 0xF0 → 0x90 ≤ b1) ∧ (b0 = 0xF4 → b1 ≤ 0x8F)
      ∧ 0x80 ≤ b2 ∧ b2 < 0xC0 ∧ 0x80 ≤ b3 ∧ b3 < 0xC0 := by
  simp only [validSeq, isCont, Bool.and_eq_true, decide_eq_true_eq] at h
  have := acceptLo_spec b0
  have := acceptHi_spec b0
  omega

theorem validSeq_lead {b0 b1 : Nat} {tl : Bytes} (hv : validSeq (b0 :: b1 :: tl) = true) : 0xC2 ≤ b0 := by
  match tl with
  | [] => exact (validSeq2 hv).1
  | [_] => have := validSeq3 hv; omega
  | [_, _] => have := validSeq4 hv; omega
  | _ :: _ :: _ :: _ => simp [validSeq] at hv

theorem decodeRune_some {b0 : Nat} {rest raw : Bytes} (h : decodeRune b0 rest = some raw) :
    validSeq raw = true ∧ raw ++ rest.drop (raw.length - 1) = b0 :: rest := by
  -- every branch returns `b0 :: rest.take k` after testing it (`k = 0` for an ASCII byte)
  have key : ∀ k, validSeq (b0 :: rest.take k) = true → some (b0 :: rest.take k) = some raw →
      validSeq raw = true ∧ raw ++ rest.drop (raw.length - 1) = b0 :: rest := by
    intro k hv e
    cases e
    refine ⟨hv, congrArg (b0 :: ·) ?_⟩
    rw [List.length_cons, Nat.add_sub_cancel, List.length_take, List.take_eq_take_min]
    exact List.take_append_drop _ rest
  unfold decodeRune at h
  split at h
  · next hlt => exact key 0 (validSeq1.mpr hlt) h
  · split at h
    · next hv => exact key 1 hv h
    · split at h
      · next hv => exact key 2 hv h
      · split at h
        · next hv => exact key 3 hv h
        · cases h

theorem decodeRune_append {b0 : Nat} {tl : Bytes} (hv : validSeq (b0 :: tl) = true) (A : Bytes) :
    decodeRune b0 (tl ++ A) = some (b0 :: tl) := by
  match tl with
  | [] => simp [decodeRune, validSeq1.mp hv]
  | b1 :: tl =>
    have h0 : ¬ b0 < 0x80 := by have := validSeq_lead hv; omega
    match tl with
    | [] => simp [decodeRune, h0, hv]
    -- the lead byte fixes the length, so the shorter candidates are rejected
    | [b2] =>
      have := validSeq3 hv
      have h1 : validSeq [b0, b1] = false := by simp [validSeq]; omega
      simp [decodeRune, h0, hv, h1]
    | [b2, b3] =>
      have := validSeq4 hv
      have h1 : validSeq [b0, b1] = false := by simp [validSeq]; omega
      have h2 : validSeq [b0, b1, b2] = false := by simp [validSeq]; omega
      simp [decodeRune, h0, hv, h1, h2]
    | _ :: _ :: _ :: _ => simp [validSeq] at hv

/-- `utf8.AppendRune` on a scalar value -/
def encodeRune (c : Nat) : Bytes :=
  if c < 0x80 then [c]
  else if c < 0x800 then [0xC0 + c / 64, 0x80 + c % 64]
  else if c < 0x10000 then [0xE0 + c / 64 / 64, 0x80 + c / 64 % 64, 0x80 + c % 64]
  else [0xF0 + c / 64 / 64 / 64, 0x80 + c / 64 / 64 % 64, 0x80 + c / 64 % 64, 0x80 + c % 64]

theorem mul_add_div_of_lt {a b c : Nat} (h : c < b) : (a * b + c) / b = a := by
  rw [Nat.add_comm, Nat.add_mul_div_right _ _ (Nat.zero_lt_of_lt h), Nat.div_eq_of_lt h, Nat.zero_add]

/-! The encoder on a value given by its bit fields, its digits to base 64.  The lower bounds are "no
overlong forms": they put the value into the range of its own length. -/

theorem encodeRune2 {p0 p1 : Nat} (h1 : p1 < 64) (hlo : 2 ≤ p0) (hhi : p0 < 32) :
    encodeRune (p0 * 64 + p1) = [0xC0 + p0, 0x80 + p1] := by
  rw [encodeRune, if_neg (by omega), if_pos (by omega), mul_add_div_of_lt h1, Nat.mul_add_mod_of_lt h1]

theorem encodeRune3 {p0 p1 p2 : Nat} (h1 : p1 < 64) (h2 : p2 < 64) (hlo : p0 = 0 → 32 ≤ p1) (hhi : p0 < 16) :
    encodeRune (p0 * 4096 + p1 * 64 + p2) = [0xE0 + p0, 0x80 + p1, 0x80 + p2] := by
  rw [encodeRune, if_neg (by omega), if_neg (by omega), if_pos (by omega),
    show p0 * 4096 + p1 * 64 + p2 = (p0 * 64 + p1) * 64 + p2 by omega]
  simp only [mul_add_div_of_lt, Nat.mul_add_mod_of_lt, h1, h2]

theorem encodeRune4 {p0 p1 p2 p3 : Nat} (h1 : p1 < 64) (h2 : p2 < 64) (h3 : p3 < 64) (hlo : p0 = 0 → 16 ≤ p1) :
    encodeRune (p0 * 262144 + p1 * 4096 + p2 * 64 + p3) = [0xF0 + p0, 0x80 + p1, 0x80 + p2, 0x80 + p3] := by
  rw [encodeRune, if_neg (by omega), if_neg (by omega), if_neg (by omega),
    show p0 * 262144 + p1 * 4096 + p2 * 64 + p3 = ((p0 * 64 + p1) * 64 + p2) * 64 + p3 by omega]
  simp only [mul_add_div_of_lt, Nat.mul_add_mod_of_lt, h1, h2, h3]

/-- a byte is its fixed high bits `lo` plus the field that `% n` masks out -/
theorem add_mod_of_range {b lo : Nat} (n : Nat) (h₁ : lo ≤ b) (h₂ : b < lo + n) (hd : lo % n = 0 := by rfl) :
    lo + b % n = b := by
  obtain ⟨r, rfl⟩ := Nat.exists_eq_add_of_le h₁
  rw [Nat.add_mod, hd, Nat.zero_add, Nat.mod_mod, Nat.mod_eq_of_lt (Nat.lt_of_add_lt_add_left h₂)]

theorem encodeRune_runeOf {raw : Bytes} (hv : validSeq raw = true) : encodeRune (runeOf raw) = raw := by
  have m64 (b : Nat) : b % 64 < 64 := Nat.mod_lt b (by decide)
  match raw with
  | [] => simp [validSeq] at hv
  | [b] => simp only [runeOf, encodeRune, validSeq1.mp hv, if_true]
  | [b0, b1] =>
    obtain ⟨l0, u0, l1, u1⟩ := validSeq2 hv
    rw [runeOf, encodeRune2 (m64 _) (by omega) (Nat.mod_lt _ (by decide)),
      add_mod_of_range 32 (by omega) u0, add_mod_of_range 64 l1 u1]
  | [b0, b1, b2] =>
    obtain ⟨l0, u0, l1, u1, hlo, -, l2, u2⟩ := validSeq3 hv
    rw [runeOf, encodeRune3 (m64 _) (m64 _) (by omega) (Nat.mod_lt _ (by decide)),
      add_mod_of_range 16 l0 u0, add_mod_of_range 64 l1 u1, add_mod_of_range 64 l2 u2]
  | [b0, b1, b2, b3] =>
    obtain ⟨l0, u0, l1, u1, hlo, -, l2, u2, l3, u3⟩ := validSeq4 hv
    rw [runeOf, encodeRune4 (m64 _) (m64 _) (m64 _) (by omega), add_mod_of_range 8 l0 (by omega),
      add_mod_of_range 64 l1 u1, add_mod_of_range 64 l2 u2, add_mod_of_range 64 l3 u3]
  | _ :: _ :: _ :: _ :: _ :: _ => simp [validSeq] at hv

theorem runeOf_inj {r₁ r₂ : Bytes} (h₁ : validSeq r₁ = true) (h₂ : validSeq r₂ = true)
    (h : runeOf r₁ = runeOf r₂) : r₁ = r₂ := by
  rw [← encodeRune_runeOf h₁, ← encodeRune_runeOf h₂, h]

/-- tokens as the rune loop produces them -/
def Tok.WF : Tok → Prop
  | .bad => True
  | .lit raw => validSeq raw = true

theorem tokens_wf : ∀ (bs : Bytes), ∀ t ∈ tokens bs, t.WF := by
  intro bs
  induction bs using drop_induct with
  | nil => intro t h; cases h
  | cons b0 rest ih =>
    rw [tokens_cons]
    cases hd : decodeRune b0 rest with
    | some raw => exact List.forall_mem_cons.mpr ⟨(decodeRune_some hd).1, ih _⟩
    | none => exact List.forall_mem_cons.mpr ⟨trivial, ih 0⟩

def hexVal (c : Nat) : Nat :=
  if 48 ≤ c ∧ c ≤ 57 then c - 48 else if 97 ≤ c ∧ c ≤ 102 then c - 87 else 0

theorem hexVal_hexDigit : ∀ d < 16, hexVal (hexDigit d) = d := by decide

/-- the step that `appendString` took for the rune `v` when it wrote backslash-u and four hex digits -/
def tokOfEscape (v : Nat) : Tok := if v = 0xFFFD then .bad else .lit (encodeRune v)

/-- after a backslash -/
def parseEsc : Bytes → Option (Option Tok × Bytes)
  | [] => none
  | c :: r =>
    if c = 34 ∨ c = 92 then some (some (.lit [c]), r)
    else if c = 98 then some (some (.lit [8]), r)
    else if c = 102 then some (some (.lit [12]), r)
    else if c = 110 then some (some (.lit [10]), r)
    else if c = 114 then some (some (.lit [13]), r)
    else if c = 116 then some (some (.lit [9]), r)
    else if c = 117 then
      match r with
      | h1 :: h2 :: h3 :: h4 :: r' =>
        some (some (tokOfEscape (((hexVal h1 * 16 + hexVal h2) * 16 + hexVal h3) * 16 + hexVal h4)), r')
      | _ => none
    else none

/-- reads one token of escaped text (`some (some t, rest)`) or the closing quote (`some (none, rest)`) -/
def parseTok : Bytes → Option (Option Tok × Bytes)
  | [] => none
  | b :: r =>
    if b = 34 then some (none, r)
    else if b = 92 then parseEsc r
    else if b < 0x80 then some (some (.lit [b]), r)
    else match decodeRune b r with
      | some raw => some (some (.lit raw), r.drop (raw.length - 1))
      | none => none

theorem parseTok_encAscii {b : Nat} (hb : b < 0x80) (A : Bytes) :
    parseTok (encAscii b ++ A) = some (some (.lit [b]), A) := by
  by_cases hsp : b = 34 ∨ b = 92 ∨ b = 8 ∨ b = 12 ∨ b = 10 ∨ b = 13 ∨ b = 9
  · rcases hsp with rfl | rfl | rfl | rfl | rfl | rfl | rfl <;> rfl
  · simp only [not_or] at hsp
    by_cases hs : htmlSafe b = true
    · simp only [encAscii, hs, parseTok, List.cons_append, List.nil_append, hsp, hb, if_true, if_false]
    · simp only [encAscii, hs, hsp, or_self, if_false]
      show some (some (tokOfEscape
        (((0 * 16 + 0) * 16 + hexVal (hexDigit (b / 16))) * 16 + hexVal (hexDigit (b % 16)))), A) = _
      rw [hexVal_hexDigit _ (by omega), hexVal_hexDigit _ (by omega),
        show ((0 * 16 + 0) * 16 + b / 16) * 16 + b % 16 = b by omega,
        tokOfEscape, if_neg (by omega), encodeRune, if_pos hb]

theorem parseTok_encTok {t : Tok} (hw : t.WF) (A : Bytes) :
    parseTok (encTok t ++ A) = some (some t, A) := by
  match t, hw with
  | .bad, _ => rfl
  | .lit [], hw => simp [Tok.WF, validSeq] at hw
  | .lit [b], hw => exact parseTok_encAscii (validSeq1.mp hw) A
  | .lit (b0 :: b1 :: tl), hv =>
    have hhi : 0xC2 ≤ b0 := validSeq_lead hv
    have hraw := encodeRune_runeOf hv
    simp only [encTok]
    split
    · next hc =>
      -- U+2028 / U+2029: the sequence is the encoding of that value, and the reader encodes it again
      rcases hc with hc | hc <;> (rw [hc] at hraw ⊢; rw [← hraw]; rfl)
    · rw [List.cons_append, parseTok, if_neg (by omega), if_neg (by omega), if_neg (by omega),
        decodeRune_append hv A]
      simp

theorem parseTok_encToks (A : Bytes) : ∀ (ts : List Tok), (∀ t ∈ ts, t.WF) →
    parseTok (encToks ts ++ 34 :: A) =
      match ts with
      | [] => some (none, A)
      | t :: ts => some (some t, encToks ts ++ 34 :: A)
  | [], _ => rfl
  | t :: ts, hw => by
    rw [encToks, List.flatMap_cons, List.append_assoc, parseTok_encTok (List.forall_mem_cons.mp hw).1]; rfl

theorem encToks_inj {A B : Bytes} : ∀ {ta tb : List Tok}, (∀ t ∈ ta, t.WF) → (∀ t ∈ tb, t.WF) →
    encToks ta ++ 34 :: A = encToks tb ++ 34 :: B → ta = tb ∧ A = B
  | ta, tb, ha, hb, h => by
    have h' := congrArg parseTok h
    rw [parseTok_encToks A ta ha, parseTok_encToks B tb hb] at h'
    match ta, tb, h' with
    | [], [], h' => exact ⟨rfl, (Prod.mk.inj (Option.some.inj h')).2⟩
    | t :: ta, u :: tb, h' =>
      obtain ⟨htu, hrest⟩ := Prod.mk.inj (Option.some.inj h')
      obtain ⟨h1, h2⟩ := encToks_inj (List.forall_mem_cons.mp ha).2 (List.forall_mem_cons.mp hb).2 hrest
      exact ⟨by rw [Option.some.inj htu, h1], h2⟩

theorem goJsonString_iff {a b r₁ r₂ : Bytes} :
    goJsonString a ++ r₁ = goJsonString b ++ r₂ ↔ tokens a = tokens b ∧ r₁ = r₂ := by
  constructor
  · intro h
    simp only [goJsonString, List.cons_append, List.append_assoc, List.cons.injEq, true_and,
      List.nil_append] at h
    exact encToks_inj (tokens_wf a) (tokens_wf b) h
  · rintro ⟨h, rfl⟩
    rw [goJsonString, goJsonString, h]

theorem goJsonString_head (x : Bytes) : ∃ t, goJsonString x = 34 :: t := ⟨_, rfl⟩

def isDigit (c : Nat) : Prop := 48 ≤ c ∧ c ≤ 57

instance (c : Nat) : Decidable (isDigit c) := inferInstanceAs (Decidable (48 ≤ c ∧ c ≤ 57))

theorem span_unique {p : Nat → Bool} {l₁ l₂ : Bytes} {c d : Nat} {r₁ r₂ : Bytes}
    (h₁ : ∀ x ∈ l₁, p x = true) (h₂ : ∀ x ∈ l₂, p x = true) (hc : ¬ p c = true) (hd : ¬ p d = true)
    (h : l₁ ++ c :: r₁ = l₂ ++ d :: r₂) : l₁ = l₂ ∧ c :: r₁ = d :: r₂ := by
  have ht := congrArg (List.takeWhile p) h
  have hr := congrArg (List.dropWhile p) h
  rw [List.takeWhile_append_of_pos h₁, List.takeWhile_append_of_pos h₂, List.takeWhile_cons_of_neg hc,
    List.takeWhile_cons_of_neg hd, List.append_nil, List.append_nil] at ht
  rw [List.dropWhile_append_of_pos h₁, List.dropWhile_append_of_pos h₂, List.dropWhile_cons_of_neg hc,
    List.dropWhile_cons_of_neg hd] at hr
  exact ⟨ht, hr⟩

theorem natDecF_eq : ∀ (f n : Nat), n ≤ f → natDecF f n = (Nat.toDigits 10 n).map Char.toNat
  | 0, n, h => by rw [Nat.le_zero.mp h]; rfl
  | f + 1, n, h => by
    rw [natDecF, Nat.toDigits_eq_if (by decide)]
    split
    · next h => rw [List.map_singleton, Nat.toNat_digitChar_of_lt_ten h]
    · rw [natDecF_eq f _ (by omega), List.map_append, List.map_singleton,
        Nat.toNat_digitChar_of_lt_ten (Nat.mod_lt n (by decide))]

theorem natDec_eq (n : Nat) : natDec n = (Nat.toDigits 10 n).map Char.toNat := natDecF_eq n n (Nat.le_refl n)

theorem natDec_digits (n : Nat) : ∀ x ∈ natDec n, isDigit x := by
  rw [natDec_eq]
  intro x hx
  obtain ⟨c, hc, rfl⟩ := List.mem_map.mp hx
  exact Char.isDigit_iff_toNat.mp (Nat.isDigit_of_mem_toDigits (by decide) (by decide) hc)

theorem natDec_ne_nil (n : Nat) : natDec n ≠ [] := by
  rw [natDec_eq]
  exact mt List.map_eq_nil_iff.mp Nat.toDigits_ne_nil

theorem natDec_inj {n m : Nat} (h : natDec n = natDec m) : n = m := by
  rw [natDec_eq, natDec_eq, List.map_inj_right fun _ _ => Char.toNat_inj.mp] at h
  rw [← Nat.ofDigitChars_ten_toDigits (n := n), h, Nat.ofDigitChars_ten_toDigits]

theorem natDec_iff {n m c : Nat} {r₁ r₂ : Bytes} (hc : ¬ isDigit c) :
    natDec n ++ c :: r₁ = natDec m ++ c :: r₂ ↔ n = m ∧ r₁ = r₂ := by
  constructor
  · intro h
    obtain ⟨e1, e2⟩ := span_unique (p := fun x => decide (isDigit x))
      (fun x hx => decide_eq_true (natDec_digits n x hx)) (fun x hx => decide_eq_true (natDec_digits m x hx))
      (mt of_decide_eq_true hc) (mt of_decide_eq_true hc) h
    exact ⟨natDec_inj e1, (List.cons.inj e2).2⟩
  · rintro ⟨rfl, rfl⟩
    rfl

theorem natDec_ne_minus (n : Nat) (r r' : Bytes) : natDec n ++ r ≠ 45 :: r' := by
  intro h
  cases hn : natDec n with
  | nil => exact natDec_ne_nil n hn
  | cons x xs =>
    have hx := natDec_digits n x (by simp [hn])
    rw [hn, List.cons_append, List.cons.injEq] at h
    exact absurd (h.1 ▸ hx) (by decide)

theorem intDec_iff {i j : Int} {c : Nat} {r₁ r₂ : Bytes} (hc : ¬ isDigit c) :
    intDec i ++ c :: r₁ = intDec j ++ c :: r₂ ↔ i = j ∧ r₁ = r₂ := by
  unfold intDec
  split <;> split
  · simp only [List.cons_append, List.cons.injEq, true_and, natDec_iff hc]
    exact and_congr_left' (by omega)
  · exact ⟨fun h => absurd h.symm (natDec_ne_minus _ _ _), fun h => by omega⟩
  · exact ⟨fun h => absurd h (natDec_ne_minus _ _ _), fun h => by omega⟩
  · rw [natDec_iff hc]
    exact and_congr_left' (by omega)

theorem not_digit_125 : ¬ isDigit 125 := by decide
theorem not_digit_44 : ¬ isDigit 44 := by decide

theorem arrTail_iff : ∀ (xs ys : List Bytes) (r₁ r₂ : Bytes),
    arrTail xs ++ r₁ = arrTail ys ++ r₂ ↔ xs.map tokens = ys.map tokens ∧ r₁ = r₂
  | [], [], _, _ => by simp [arrTail]
  | [], _ :: _, _, _ => by simp [arrTail]
  | _ :: _, [], _, _ => by simp [arrTail]
  | x :: xs, y :: ys, r₁, r₂ => by
    simp only [arrTail, List.cons_append, List.append_assoc, List.cons.injEq, true_and, goJsonString_iff,
      arrTail_iff xs ys, List.map_cons, and_assoc]

theorem jsonArr_iff : ∀ {xs ys : List Bytes} {r₁ r₂ : Bytes},
    jsonArr xs ++ r₁ = jsonArr ys ++ r₂ ↔ xs.map tokens = ys.map tokens ∧ r₁ = r₂
  | [], [], _, _ => by simp [jsonArr]
  | [], _ :: _, _, _ => by simp [jsonArr, goJsonString]
  | _ :: _, [], _, _ => by simp [jsonArr, goJsonString]
  | x :: xs, y :: ys, r₁, r₂ => by
    simp only [jsonArr, List.cons_append, List.append_assoc, List.cons.injEq, true_and, goJsonString_iff,
      arrTail_iff xs ys, List.map_cons, and_assoc]

theorem kvView_cons (p : Bytes × Bytes) (t : List (Bytes × Bytes)) :
    kvView (p :: t) = (tokens p.1, tokens p.2) :: kvView t := rfl

theorem objTail_iff : ∀ (xs ys : List (Bytes × Bytes)) (r₁ r₂ : Bytes),
    objTail xs ++ r₁ = objTail ys ++ r₂ ↔ kvView xs = kvView ys ∧ r₁ = r₂
  | [], [], _, _ => by simp [objTail, kvView]
  | [], _ :: _, _, _ => by simp [objTail, kvView]
  | _ :: _, [], _, _ => by simp [objTail, kvView]
  | x :: xs, y :: ys, r₁, r₂ => by
    simp only [objTail, List.cons_append, List.append_assoc, List.cons.injEq, true_and, goJsonString_iff,
      objTail_iff xs ys, kvView_cons, Prod.mk.injEq, and_assoc]

theorem jsonObj_iff : ∀ {xs ys : List (Bytes × Bytes)} {r₁ r₂ : Bytes},
    jsonObj xs ++ r₁ = jsonObj ys ++ r₂ ↔ kvView xs = kvView ys ∧ r₁ = r₂
  | [], [], _, _ => by simp [jsonObj, kvView]
  | [], _ :: _, _, _ => by simp [jsonObj, goJsonString, kvView]
  | _ :: _, [], _, _ => by simp [jsonObj, goJsonString, kvView]
  | x :: xs, y :: ys, r₁, r₂ => by
    simp only [jsonObj, List.cons_append, List.append_assoc, List.cons.injEq, true_and, goJsonString_iff,
      objTail_iff xs ys, kvView_cons, Prod.mk.injEq, and_assoc]

theorem tokens_ascii : ∀ (bs : Bytes), (∀ x ∈ bs, x < 0x80) → tokens bs = bs.map (fun b => Tok.lit [b])
  | [], _ => rfl
  | b0 :: rest, h => by
    obtain ⟨h0, h⟩ := List.forall_mem_cons.mp h
    rw [tokens_cons, decodeRune, if_pos h0, List.map_cons, ← tokens_ascii rest h]
    rfl

theorem validUtf8_of_ascii {bs : Bytes} (h : ∀ x ∈ bs, x < 0x80) : validUtf8 bs = true := by
  simp [validUtf8, tokens_ascii bs h, Tok.isBad]

theorem raw_tokens : ∀ (bs : Bytes), validUtf8 bs = true → (tokens bs).flatMap Tok.raw = bs := by
  intro bs
  induction bs using drop_induct with
  | nil => intro _; rfl
  | cons b0 rest ih =>
    rw [validUtf8, tokens_cons]
    cases hd : decodeRune b0 rest with
    | some raw =>
      intro hv
      rw [List.flatMap_cons, ih _ (Bool.and_eq_true_iff.mp hv).2]
      exact (decodeRune_some hd).2
    | none => intro hv; cases hv

theorem tokens_inj_of_valid {a b : Bytes} (ha : validUtf8 a = true) (hb : validUtf8 b = true)
    (h : tokens a = tokens b) : a = b := by
  rw [← raw_tokens a ha, ← raw_tokens b hb, h]

theorem encodeRune_rune : ∀ {t : Tok}, t.WF → t.isBad = false → encodeRune t.rune = t.raw
  | .lit _, hw, _ => encodeRune_runeOf hw

theorem encode_runes {a : Bytes} (ha : validUtf8 a = true) : (runes a).flatMap encodeRune = a := by
  have step : ∀ t ∈ tokens a, encodeRune t.rune = t.raw := fun t ht =>
    encodeRune_rune (tokens_wf a t ht) (by simpa using List.all_eq_true.mp ha t ht)
  rw [runes, List.flatMap_map, List.flatMap_def, List.map_congr_left step, ← List.flatMap_def, raw_tokens a ha]

theorem hexDigit_inj {d e : Nat} (hd : d < 16) (he : e < 16) : hexDigit d = hexDigit e ↔ d = e :=
  ⟨fun h => by rw [← hexVal_hexDigit d hd, h, hexVal_hexDigit e he], congrArg _⟩

theorem hexDigit_ascii : ∀ d < 16, hexDigit d < 0x80 := by decide

theorem hexEncode_ascii : ∀ (bs : Bytes), ∀ x ∈ hexEncode bs, x < 0x80
  | [] => fun _ hx => nomatch hx
  | b :: t => List.forall_mem_cons.mpr ⟨hexDigit_ascii _ (Nat.mod_lt _ (by decide)),
      List.forall_mem_cons.mpr ⟨hexDigit_ascii _ (Nat.mod_lt _ (by decide)), hexEncode_ascii t⟩⟩

theorem hex_digits_iff (x y : Nat) : x / 16 % 16 = y / 16 % 16 ∧ x % 16 = y % 16 ↔ x % 256 = y % 256 := by
  constructor
  · rintro ⟨h1, h2⟩
    rw [Nat.mod_mul (a := 16) (b := 16), Nat.mod_mul (a := 16) (b := 16), h1, h2]
  · intro h
    rw [← Nat.mod_mul_right_div_self x 16 16, ← Nat.mod_mul_right_div_self y 16 16,
      ← Nat.mod_mul_right_mod x 16 16, ← Nat.mod_mul_right_mod y 16 16, h]
    exact ⟨rfl, rfl⟩

theorem hexEncode_iff : ∀ {a b : Bytes}, hexEncode a = hexEncode b ↔ a.map (· % 256) = b.map (· % 256)
  | [], [] => Iff.rfl
  | [], _ :: _ => ⟨nofun, nofun⟩
  | _ :: _, [] => ⟨nofun, nofun⟩
  | x :: a, y :: b => by
    have m16 (n : Nat) : n % 16 < 16 := Nat.mod_lt n (by decide)
    simp only [hexEncode, List.map_cons, List.cons.injEq, hexDigit_inj (m16 _) (m16 _), hexEncode_iff (a := a),
      ← and_assoc, hex_digits_iff]

theorem tokens_hexEncode_iff {a b : Bytes} :
    tokens (hexEncode a) = tokens (hexEncode b) ↔ a.map (· % 256) = b.map (· % 256) :=
  ⟨fun h => hexEncode_iff.mp (tokens_inj_of_valid (validUtf8_of_ascii (hexEncode_ascii a))
    (validUtf8_of_ascii (hexEncode_ascii b)) h), fun h => congrArg tokens (hexEncode_iff.mpr h)⟩

/-- the optional first member is told from what follows by the first letter of the key (`a` / `c`) -/
theorem additionalPart_iff : ∀ {xs ys : List (Bytes × Bytes)} {t₁ t₂ : Bytes},
    additionalPart xs ++ 34 :: 99 :: t₁ = additionalPart ys ++ 34 :: 99 :: t₂ ↔ kvView xs = kvView ys ∧ t₁ = t₂
  | [], [], _, _ => by simp [additionalPart, kvView]
  | [], _ :: _, _, _ => by simp [additionalPart, kAdditional, kvView]
  | _ :: _, [], _, _ => by simp [additionalPart, kAdditional, kvView]
  | x :: xs, y :: ys, t₁, t₂ => by
    simp only [additionalPart, List.append_assoc, List.append_cancel_left_eq, jsonObj_iff, List.cons_append,
      List.nil_append, List.cons.injEq, true_and]

theorem toBuffer_iff {a b : Hashable} : toBuffer a = toBuffer b ↔ signedView a = signedView b := by
  -- of the key constants only two are opened: `kClockId`, whose first bytes `"c` are what `additionalPart_iff`
  -- tells from `"a…`, and `kHashId`, whose first byte `}` is the non-digit that ends the time; the others cancel
  -- as they stand (`List.append_cancel_left_eq`)
  simp only [toBuffer, bufferRest, kClockId, kHashId, List.cons_append, List.nil_append, List.cons.injEq,
    true_and, and_true, additionalPart_iff, List.append_cancel_left_eq, goJsonString_iff, tokens_hexEncode_iff,
    intDec_iff not_digit_125, jsonArr_iff, natDec_iff not_digit_125, signedView, SignedView.mk.injEq]
  -- the same eight equations, in the order of the text and in the order of the structure
  exact ⟨fun ⟨hA, hC, hT, hI, hN, hP, hR, hV⟩ => ⟨hI, hP, hN, hR, hV, hC, hT, hA⟩,
    fun ⟨hI, hP, hN, hR, hV, hC, hT, hA⟩ => ⟨hA, hC, hT, hI, hN, hP, hR, hV⟩⟩

/-- "and nothing more": the signed bytes are a function of the view (cited by the docstring of
    `Model.Json.SignedView`) -/
theorem toBuffer_congr {a b : Hashable} (h : signedView a = signedView b) : toBuffer a = toBuffer b :=
  toBuffer_iff.mpr h

/-- the coarser reading: every step replaced by its rune -/
def SignedView.runes (s : SignedView) : RuneView :=
  { id := s.id.map Tok.rune, payload := s.payload.map Tok.rune, next := s.next.map (·.map Tok.rune),
    refs := s.refs.map (·.map Tok.rune), v := s.v, clockId := s.clockId, clockTime := s.clockTime,
    additional := s.additional.map (fun q => (q.1.map Tok.rune, q.2.map Tok.rune)) }

theorem runeView_eq (h : Hashable) : runeView h = (signedView h).runes := by
  simp only [runeView, signedView, SignedView.runes, kvView, List.map_map]
  rfl

theorem runeView_of_signedView {a b : Hashable} (h : signedView a = signedView b) : runeView a = runeView b := by
  rw [runeView_eq, runeView_eq, h]

/-- every string of the entry is valid UTF-8, the clock id consists of bytes, and the additional-data
    list is given in key order (the canonical representation of the Go map) -/
def Hashable.Canonical (h : Hashable) : Prop :=
  validUtf8 h.id = true ∧ validUtf8 h.payload = true ∧ (∀ x ∈ h.next, validUtf8 x = true)
    ∧ (∀ x ∈ h.refs, validUtf8 x = true) ∧ (∀ x ∈ h.clockId, x < 256)
    ∧ (∀ p ∈ h.additional, validUtf8 p.1 = true ∧ validUtf8 p.2 = true) ∧ sortKV h.additional = h.additional

theorem map_inj_on {α β} {f : α → β} {S : α → Prop} (hf : ∀ a b, S a → S b → f a = f b → a = b) :
    ∀ {xs ys : List α}, xs.map f = ys.map f → (∀ x ∈ xs, S x) → (∀ y ∈ ys, S y) → xs = ys
  | [], [], _, _, _ => rfl
  | x :: xs, y :: ys, h, hx, hy => by
    obtain ⟨sx, hx⟩ := List.forall_mem_cons.mp hx
    obtain ⟨sy, hy⟩ := List.forall_mem_cons.mp hy
    rw [hf x y sx sy (List.cons.inj h).1, map_inj_on hf (List.cons.inj h).2 hx hy]

theorem map_tokens_inj_valid {xs ys : List Bytes} (h : xs.map tokens = ys.map tokens) :
    (∀ x ∈ xs, validUtf8 x = true) → (∀ y ∈ ys, validUtf8 y = true) → xs = ys :=
  map_inj_on (fun _ _ => tokens_inj_of_valid) h

theorem map_mod_inj {a b : Bytes} (h : a.map (· % 256) = b.map (· % 256)) :
    (∀ x ∈ a, x < 256) → (∀ x ∈ b, x < 256) → a = b :=
  map_inj_on (fun x y hx hy (e : x % 256 = y % 256) => by
    rwa [Nat.mod_eq_of_lt hx, Nat.mod_eq_of_lt hy] at e) h

theorem kvView_inj_valid {xs ys : List (Bytes × Bytes)} (h : kvView xs = kvView ys) :
    (∀ p ∈ xs, validUtf8 p.1 = true ∧ validUtf8 p.2 = true) →
    (∀ p ∈ ys, validUtf8 p.1 = true ∧ validUtf8 p.2 = true) → xs = ys :=
  map_inj_on (fun _ _ hp hq e => Prod.ext (tokens_inj_of_valid hp.1 hq.1 (Prod.mk.inj e).1)
    (tokens_inj_of_valid hp.2 hq.2 (Prod.mk.inj e).2)) h

theorem signedView_inj_canonical {a b : Hashable} (ha : a.Canonical) (hb : b.Canonical)
    (h : signedView a = signedView b) : a = b := by
  obtain ⟨a1, a2, a3, a4, a5, a6, a7⟩ := ha
  obtain ⟨b1, b2, b3, b4, b5, b6, b7⟩ := hb
  simp only [signedView, SignedView.mk.injEq] at h
  obtain ⟨eId, ePayload, eNext, eRefs, eV, eCid, eTime, eAdd⟩ := h
  rw [a7, b7] at eAdd
  cases a; cases b
  simp only [Hashable.mk.injEq]
  exact ⟨tokens_inj_of_valid a1 b1 eId, tokens_inj_of_valid a2 b2 ePayload, map_tokens_inj_valid eNext a3 b3,
    map_tokens_inj_valid eRefs a4 b4, eV, map_mod_inj eCid a5 b5, eTime, kvView_inj_valid eAdd a6 b6⟩

end Model.Json
