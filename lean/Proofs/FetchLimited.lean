import Proofs.FetchReach
import Proofs.SortTrim
/-!
# Proofs.FetchLimited — the length-limited fetch never cuts one of the newest `n` ancestors

`J` is the admission invariant (sketch: DESIGN §14): `minClock` is below every admitted entry except possibly
the last one; a finished task's entry is admitted or `n` results are strictly newer (`cntGt`); each of its
`next` is cached or `n` results are at least as new as the entry (`cntGe`).  Every event preserves it, for every
limit `n ≥ 0` and when nothing is excluded (`J_fstep`, the work being `J_complete`).  At quiescence, when a
`next` predecessor has a strictly smaller clock time, induction along a `next`-path of retrievable blocks gives
`limited_admitted_or_cut`; blocks may be missing (such a path ends there), only none is stored under the
undefined hash.
-/
namespace Model

structure J (cfg : FCfg) (s : FState) : Prop where
  minLe : ∀ r ∈ s.results.dropLast, s.minClock ≤ r.clock.time
  admitted : ∀ h ∈ s.done, ∀ e, get? cfg.store h = some e →
    e ∈ s.results ∨ cfg.length ≤ (cntGt s.results e.clock.time : Int)
  children : ∀ h ∈ s.done, ∀ e, get? cfg.store h = some e → ∀ c ∈ e.next, c ≠ [] →
    s.known c ∨ cfg.length ≤ (cntGe s.results e.clock.time : Int)

theorem J.mono {cfg : FCfg} {s s' : FState} (I : J cfg s) (hr : s'.results = s.results) (hd : s'.done = s.done)
    (hm : s'.minClock = s.minClock) (hk : ∀ x, s.known x → s'.known x) : J cfg s' where
  minLe := by rw [hr, hm]; exact I.minLe
  admitted := by rw [hr, hd]; exact I.admitted
  children := by rw [hr, hd]; exact fun h hh e he c hc hne => (I.children h hh e he c hc hne).imp (hk c) id

theorem J_addHashes {cfg : FCfg} {s : FState} (hs : List Hash) (I : J cfg s) : J cfg (addHashes cfg s hs) :=
  I.mono (by rw [addHashes_eq]) (by rw [addHashes_eq]) (by rw [addHashes_eq]) fun _ hk => known_addHashes.mpr (Or.inl hk)

theorem newMin_le {cfg : FCfg} {s : FState} (I : J cfg s) (e : Entry) :
    ∀ r ∈ s.results, newMin s e ≤ r.clock.time := by
  intro r hr
  unfold newMin
  cases hl : s.results.getLast? with
  | none => rw [List.getLast?_eq_none_iff.mp hl] at hr; cases hr
  | some l =>
    obtain ⟨ys, hys⟩ := List.getLast?_eq_some_iff.mp hl
    have hm := I.minLe
    rw [hys, List.dropLast_concat] at hm
    rw [hys, List.mem_append, List.mem_singleton] at hr
    rcases hr with h1 | rfl
    · exact Int.le_trans (Int.min_le_left _ _) (hm r h1)
    · exact Int.min_le_right _ _

theorem J_complete {cfg : FCfg} (hex : ∀ h, cfg.excluded h = false) {s : FState} {h : Hash} {e : Entry}
    (I : J cfg s) (hp : h ∈ s.inProgress) (hs : get? cfg.store h = some e) {L : List Hash}
    (hL : (∀ c ∈ e.next, c ∈ L) ∨
      (cfg.length ≤ ((fbase cfg s h e).results.length : Int) ∧ e.clock.time < newMin s e)) :
    J cfg (addHashes cfg (fbase cfg s h e) L) := by
  have hminAll := newMin_le I e
  -- the results after admission are `s.results ++ x` with `x = [e]` or `x = []`
  have hR : (addHashes cfg (fbase cfg s h e) L).results = s.results ++ if admits cfg s e then [e] else [] := by
    rw [addHashes_eq]; exact fbase_results cfg s h e
  have hD : (addHashes cfg (fbase cfg s h e) L).done = h :: s.done := by rw [addHashes_eq]; rfl
  rw [fbase_results] at hL
  generalize hx : (if admits cfg s e then [e] else []) = x at hR hL
  refine ⟨?_, ?_, ?_⟩
  · rw [hR, show (addHashes cfg (fbase cfg s h e) L).minClock = newMin s e by rw [addHashes_eq]; rfl]
    intro r hr
    refine hminAll r ?_
    subst hx
    split at hr
    · rwa [List.dropLast_concat] at hr
    · rw [List.append_nil] at hr; exact List.dropLast_subset _ hr
  · rw [hR, hD]
    intro h' hh' e' he'
    rw [cntGt_append]
    cases hh' with
    | tail _ hold => exact (I.admitted h' hold e' he').imp (List.mem_append_left _) (fun hn => by omega)
    | head =>
      cases hs.symm.trans he'
      by_cases ha : admits cfg s e = true
      · rw [if_pos ha] at hx
        exact Or.inl (hx ▸ List.mem_append_right _ List.mem_cons_self)
      · -- not admitted: the limit is reached and every result is newer
        simp only [admits, Bool.or_eq_true, Bool.and_eq_true, decide_eq_true_eq, not_or, not_and] at ha
        have := cntGt_all (rs := s.results) (t := e.clock.time) fun r hr => by
          have := hminAll r hr
          have := ha.2 (by omega)
          omega
        exact Or.inr (by omega)
  · rw [hR, hD]
    intro h' hh' e' he' c hc hne
    cases hh' with
    | tail _ hold =>
      exact (I.children h' hold e' he' c hc hne).imp
        (fun hk => known_addHashes.mpr (Or.inl ((known_fbase hp).mpr hk))) (fun hn => by rw [cntGe_append]; omega)
    | head =>
      cases hs.symm.trans he'
      refine hL.imp (fun hin => known_of_mem_addHashes (hin c hc) hne (hex c)) fun hcut => ?_
      -- every result is at least as new as `e`
      have := cntGe_all (rs := s.results ++ x) (t := e.clock.time) fun r hr => by
        rcases List.mem_append.mp hr with hr | hr
        · have := hminAll r hr; omega
        · subst hx
          split at hr
          · cases List.mem_singleton.mp hr; exact Int.le_refl _
          · cases hr
      omega

theorem J_finit (cfg : FCfg) (roots : List Hash) : J cfg (finit cfg roots) :=
  J_addHashes roots ⟨nofun, nofun, nofun⟩

theorem J_fstep {cfg : FCfg} (hlen : 0 ≤ cfg.length) (hex : ∀ h, cfg.excluded h = false)
    {s s' : FState} {ev : FEvent} (I : J cfg s) (hs : fstep cfg s ev = some s') : J cfg s' := by
  cases FStep.of hs with
  | dispatch | none | cancel => exact I.mono rfl rfl rfl fun _ => known_mono hs
  | found hp hg _ _ hlim => exact J_complete hex I hp hg (hlim hlen)

theorem J_accepted {cfg : FCfg} (hlen : 0 ≤ cfg.length) (hex : ∀ h, cfg.excluded h = false)
    {roots : List Hash} {evs : List FEvent} {s : FState} (hr : accepted cfg roots evs = some s) : J cfg s :=
  frun_induct (J cfg) (fun _ _ _ I h => J_fstep hlen hex I h) evs _ s (J_finit cfg roots) hr

/-- a `next` predecessor has a strictly smaller clock time (Lamport clocks; C04) -/
def TimesIncrease (cfg : FCfg) : Prop :=
  ∀ h e c e', get? cfg.store h = some e → c ∈ e.next → get? cfg.store c = some e' →
    e'.clock.time < e.clock.time

theorem limited_admitted_or_cut {cfg : FCfg} {roots : List Hash} (hlen : 0 ≤ cfg.length)
    (hex : ∀ h, cfg.excluded h = false) (hundef : get? cfg.store [] = none) (hti : TimesIncrease cfg)
    {evs : List FEvent} {s : FState} (hr : accepted cfg roots evs = some s) (hq : quiescent s)
    (hc : s.cancelled = false) {x : Hash} (ha : Anc cfg roots x) {ex : Entry}
    (hgx : get? cfg.store x = some ex) :
    ex ∈ s.results ∨ cfg.length ≤ (cntGt s.results ex.clock.time : Int) := by
  have I := J_accepted hlen hex hr
  have B := BInv_accepted hr
  have key : ∀ y, Anc cfg roots y → ∀ ey, get? cfg.store y = some ey →
      y ∈ s.done ∨ cfg.length ≤ (cntGt s.results ey.clock.time : Int) := by
    intro y hy
    induction hy with
    | @root y hm =>
      intro ey hgy
      have hs : (get? cfg.store y).isSome := by rw [hgy]; rfl
      exact Or.inl (B.settle hq hc (B.rootsK _ hm (ne_nil_of_stored hundef hs) (hex _)) hs)
    | @next p y ep _ hgp hcm ih =>
      intro ey hgy
      have hs : (get? cfg.store y).isSome := by rw [hgy]; rfl
      have hlt := hti _ _ _ _ hgp hcm hgy
      rcases ih _ hgp with hd | hcut
      · rcases I.children _ hd _ hgp _ hcm (ne_nil_of_stored hundef hs) with hk | hcut
        · exact Or.inl (B.settle hq hc hk hs)
        · have := cntGe_le_cntGt_of_lt s.results hlt
          exact Or.inr (by omega)
      · have := cntGt_mono_time s.results (Int.le_of_lt hlt)
        exact Or.inr (by omega)
  rcases key x ha ex hgx with hd | hcut
  · exact I.admitted x hd ex hgx
  · exact Or.inr hcut

end Model
