import Model.FetchSync
/-!
# Proofs.FetchSync — no lost wake-up, no deadlock, bounded runs of the fetcher's synchronisation

`Inv` ties the counters to the dispatcher's location: the semaphore and `t` count the workers, the dispatcher
holds the mutex exactly where it is not parked, a signal is pending only while it is parked, and a dispatcher
parked without a pending signal has a request in flight.  `progress`, `exclusion` and `at_return` read it off.
Every action decreases `potential`, so runs are bounded.
-/
namespace Model.FetchSync

def holdsMutex (p : DPC) : Bool := p == .top || p == .check || p == .final

structure Inv (s : FS) : Prop where
  conc_pos : 0 < s.conc
  sem : s.sem + s.nF = s.conc
  t : s.t = s.nF + s.nW
  mutex : s.mutexD = holdsMutex s.pc
  sig : s.signalled = true → parked s = true
  waitT : parked s = true → s.signalled = false → 0 < s.t
  topQ : s.pc = .top → s.q = 0 → s.t = 0
  fin : (s.pc = .final ∨ s.pc = .waitingF ∨ s.pc = .done) → s.gaveUp = false → s.t = 0 ∧ s.q = 0
  doneT : s.pc = .done → s.t = 0

theorem inv_init (conc q0 budget : Nat) (h : 0 < conc) : Inv (init conc q0 budget) :=
  { conc_pos := h, sem := rfl, t := rfl, mutex := rfl, sig := nofun, waitT := nofun, topQ := fun _ _ => rfl,
    fin := nofun, doneT := nofun }

theorem Inv.holds {s : FS} (I : Inv s) {p : DPC} (hp : s.pc = p) (hm : holdsMutex p = true := by rfl) :
    s.mutexD = true := by rw [I.mutex, hp, hm]

theorem Inv.unsignalled {s : FS} (I : Inv s) {p : DPC} (hp : s.pc = p) (hm : holdsMutex p = true := by rfl) :
    s.signalled = false :=
  Bool.eq_false_iff.mpr fun hs => by
    have hpk := I.sig hs
    rw [parked, hp] at hpk
    revert hm hpk
    cases p <;> decide

theorem inv_step {s s' : FS} {a : Act} (I : Inv s) (h : step s a = some s') : Inv s' := by
  -- `{ I with … }` lists the clauses the action can disturb; `nofun` closes a clause about a location the
  -- dispatcher is not at afterwards
  cases a <;> obtain ⟨hg, rfl⟩ := Option.ite_some_none_eq_some.mp h
  case dispatch =>
    exact { I with
      sem := by have := I.sem; dsimp only; omega
      t := by have := I.t; dsimp only; omega
      mutex := I.holds hg.1
      sig := fun hs => nomatch I.unsignalled hg.1 ▸ hs
      waitT := nofun, topQ := nofun, fin := nofun, doneT := nofun }
  case giveUp =>
    exact { I with
      mutex := I.holds hg.1
      sig := fun hs => nomatch I.unsignalled hg.1 ▸ hs
      fin := fun _ hgu => nomatch hgu
      waitT := nofun, topQ := nofun, doneT := nofun }
  case toFinal =>
    exact { I with
      mutex := I.holds hg.1
      sig := fun hs => nomatch I.unsignalled hg.1 ▸ hs
      fin := fun _ _ => ⟨I.topQ hg.1 hg.2, hg.2⟩
      waitT := nofun, topQ := nofun, doneT := nofun }
  case loopBack =>
    exact { I with
      mutex := I.holds hg.1
      sig := fun hs => nomatch I.unsignalled hg.1 ▸ hs
      topQ := fun _ hq => by have := hg.2; dsimp only at hq ⊢; omega
      waitT := nofun, fin := nofun, doneT := nofun }
  case wait =>
    exact { I with
      mutex := rfl, sig := fun _ => rfl
      waitT := fun _ _ => hg.2.2
      topQ := nofun, fin := nofun, doneT := nofun }
  case wake =>
    exact { I with mutex := rfl, sig := nofun, waitT := nofun, topQ := nofun, fin := nofun, doneT := nofun }
  case waitF =>
    exact { I with
      mutex := rfl, sig := fun _ => rfl
      waitT := fun _ _ => hg.2
      fin := fun _ => I.fin (Or.inl hg.1)
      topQ := nofun, doneT := nofun }
  case wakeF =>
    exact { I with
      mutex := rfl, sig := nofun
      fin := fun _ => I.fin (Or.inr (Or.inl hg.1))
      waitT := nofun, topQ := nofun, doneT := nofun }
  case finish =>
    exact { I with
      mutex := rfl
      sig := fun hs => nomatch I.unsignalled hg.1 ▸ hs
      fin := fun _ => I.fin (Or.inl hg.1)
      doneT := fun _ => hg.2
      waitT := nofun, topQ := nofun }
  case complete =>
    exact { I with
      sem := by have := I.sem; dsimp only; omega
      t := by have := I.t; dsimp only; omega }
  case enter =>
    -- a completion section runs only while the dispatcher is parked or gone (it needs the mutex), with a
    -- request of its own still counted in `t`
    have ht := I.t
    exact { I with
      t := by dsimp only; omega
      sig := fun hs => ((Bool.or_eq_true _ _).mp hs).elim I.sig id
      waitT := fun hp hs => by rw [show parked s = true from hp, Bool.or_true] at hs; cases hs
      topQ := fun hp => by have := I.mutex; rw [hg.2.1, show s.pc = .top from hp] at this; cases this
      fin := fun hp hgu => by have := (I.fin hp hgu).1; omega
      doneT := fun hp => by have := I.doneT hp; omega }
  case cancel => exact { I with }

theorem run_cons {s s' : FS} {a : Act} {as : List Act} (h : run s (a :: as) = some s') :
    ∃ s1, step s a = some s1 ∧ run s1 as = some s' := by
  simp only [run] at h
  split at h
  · rename_i s1 h1
    exact ⟨s1, h1, h⟩
  · cases h

theorem inv_run : ∀ (as : List Act) {s s' : FS}, Inv s → run s as = some s' → Inv s'
  | [], _, _, I, h => by cases h; exact I
  | a :: as, _, _, I, h =>
    let ⟨_, h1, h2⟩ := run_cons h
    inv_run as (inv_step I h1) h2

theorem inv_reachable {conc q0 budget : Nat} (hc : 0 < conc) {as : List Act} {s : FS}
    (h : run (init conc q0 budget) as = some s) : Inv s := inv_run as (inv_init conc q0 budget hc) h

/-- a worker's `fetchEntry` is assumed to return (the store answers or the context is cancelled): `complete`
    is enabled whenever a request is in flight -/
theorem progress {s : FS} (I : Inv s) (hnd : s.pc ≠ .done) : ∃ a s', step s a = some s' := by
  have ht := I.t
  have hsem := I.sem
  have hpos := I.conc_pos
  -- a dispatcher parked without a pending signal has a request in flight, whose worker can move
  have worker : s.mutexD = false → 0 < s.t → ∃ a s', step s a = some s' := fun hm _ => by
    by_cases hf : 0 < s.nF
    · exact ⟨.complete, _, if_pos hf⟩
    · exact ⟨.enter 0, _, if_pos ⟨by omega, hm, Nat.zero_le _⟩⟩
  cases hpc : s.pc with
  | done => exact absurd hpc hnd
  | top =>
    by_cases hq : s.q = 0
    · exact ⟨.toFinal, _, if_pos ⟨hpc, hq⟩⟩
    · by_cases hc : s.cancelled = true
      · exact ⟨.giveUp, _, if_pos ⟨hpc, by omega, hc⟩⟩
      · by_cases hs : 0 < s.sem
        · exact ⟨.dispatch, _, if_pos ⟨hpc, by omega, by simpa using hc, hs⟩⟩
        · -- every slot is taken: a request is in flight and will return
          exact ⟨.complete, _, if_pos (by omega)⟩
  | check =>
    by_cases hw : s.q = 0 ∧ 0 < s.t
    · exact ⟨.wait, _, if_pos ⟨hpc, hw⟩⟩
    · exact ⟨.loopBack, _, if_pos ⟨hpc, hw⟩⟩
  | final =>
    by_cases h0 : 0 < s.t
    · exact ⟨.waitF, _, if_pos ⟨hpc, h0⟩⟩
    · exact ⟨.finish, _, if_pos ⟨hpc, by omega⟩⟩
  | waiting =>
    cases hsg : s.signalled with
    | true => exact ⟨.wake, _, if_pos ⟨hpc, hsg⟩⟩
    | false => exact worker (by rw [I.mutex, hpc]; rfl) (I.waitT (by rw [parked, hpc]; rfl) hsg)
  | waitingF =>
    cases hsg : s.signalled with
    | true => exact ⟨.wakeF, _, if_pos ⟨hpc, hsg⟩⟩
    | false => exact worker (by rw [I.mutex, hpc]; rfl) (I.waitT (by rw [parked, hpc]; rfl) hsg)

def rank : DPC → Nat
  | .top => 2 | .check => 3 | .waiting => 1 | .final => 1 | .waitingF => 0 | .done => 0

/-- the hashes on their way: queued or still to be queued (10 each), inside `fetchEntry` (8), with a worker
    waiting for the mutex (5).  It takes the counters, not the state: where they do not change, `omega` sees
    one atom. -/
def load (budget q nF nW : Nat) : Nat := 10 * (budget + q) + 8 * nF + 5 * nW

/-- A dispatch also takes the dispatcher from `top` to `check` (1 in `rank`); a completion section may leave a
    signal (3), which pays for the wake-up (2 in `rank`); every other move of the dispatcher descends in `rank`. -/
def potential (s : FS) : Nat :=
  load s.budget s.q s.nF s.nW + 3 * s.signalled.toNat + rank s.pc + (!s.cancelled).toNat

theorem step_decreases {s s' : FS} {a : Act} (h : step s a = some s') : potential s' < potential s := by
  cases a <;> obtain ⟨hg, rfl⟩ := Option.ite_some_none_eq_some.mp h
  case dispatch | complete =>
    simp only [potential, load, rank, hg]
    omega
  case enter =>
    have := Bool.toNat_le (s.signalled || parked s)
    simp only [potential, load]
    omega
  -- the other actions leave the load alone; the guard gives the location, hence both ranks
  all_goals
    simp only [potential, rank, hg, Bool.toNat_true, Bool.toNat_false, Bool.not_true, Bool.not_false]
    omega

theorem run_bounded : ∀ (as : List Act) {s s' : FS}, run s as = some s' → as.length + potential s' ≤ potential s
  | [], _, _, h => by cases h; simp
  | a :: as, _, _, h => by
    obtain ⟨_, h1, h2⟩ := run_cons h
    have := run_bounded as h2
    have := step_decreases h1
    simp only [List.length_cons]
    omega

theorem at_return {s : FS} (I : Inv s) (hd : s.pc = .done) :
    s.t = 0 ∧ s.nF = 0 ∧ s.nW = 0 ∧ s.sem = s.conc ∧ (s.gaveUp = false → s.q = 0) := by
  have ht := I.doneT hd
  have h3 := I.t
  have h2 := I.sem
  refine ⟨ht, by omega, by omega, by omega, fun hg => (I.fin (Or.inr (Or.inr hd)) hg).2⟩

theorem exclusion {s s' : FS} {k : Nat} (I : Inv s) (h : step s (.enter k) = some s') :
    s.pc = .waiting ∨ s.pc = .waitingF ∨ s.pc = .done := by
  obtain ⟨hg, -⟩ := Option.ite_some_none_eq_some.mp h
  have hm := I.mutex
  rw [hg.2.1] at hm
  revert hm
  cases s.pc <;> decide

/-- where `stepOld` deadlocks.  One slot, two hashes: after the first dispatch the dispatcher is back at the
    loop head holding the mutex and waits for a slot; the worker has its block and waits for the mutex to
    release the slot -/
def stuck : FS := { init 1 2 0 with sem := 0, q := 1, t := 1, nW := 1 }

theorem old_variant_reaches_stuck :
    (do let s1 ← stepOld (init 1 2 0) .dispatch; let s2 ← stepOld s1 .loopBack; stepOld s2 .complete) = some stuck := by
  decide

end Model.FetchSync
