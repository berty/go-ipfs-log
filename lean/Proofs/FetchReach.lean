import Proofs.FetchBasic
import Model.Loaders
/-!
# Proofs.FetchReach — what an unbounded fetch returns

`Reach cfg roots` is the least set containing the retrievable, wanted start hashes and closed under links
(`next ++ refs`) of retrieved entries to retrievable, wanted hashes.  In every reachable state (any length, any
faults, cancelled or not) every result is the stored entry of such a hash (`results_sound`); with `length < 0`,
in a quiescent, never-cancelled state the results are exactly those (`unbounded_complete`).  The executable
closures `reachX` (driver specification) and `reach` (`Model.Loaders`, used by the core stream) compute that
set, without duplicates (`reachLoopX_spec`).  `Anc cfg roots` follows `next` alone and does not ask for
retrievability; where `refs` point to ancestors the two agree on retrievable hashes (`Reach.anc`, `Anc.reach`).
-/
namespace Model

inductive Reach (cfg : FCfg) (roots : List Hash) : Hash → Prop
  | root {h : Hash} : h ∈ roots → h ≠ [] → cfg.excluded h = false → (get? cfg.store h).isSome →
      Reach cfg roots h
  | link {h c : Hash} {e : Entry} : Reach cfg roots h → get? cfg.store h = some e → c ∈ e.next ++ e.refs →
      c ≠ [] → cfg.excluded c = false → (get? cfg.store c).isSome → Reach cfg roots c

theorem Req.reach {cfg : FCfg} {roots : List Hash} {h : Hash} (r : Req cfg roots h)
    (hs : (get? cfg.store h).isSome) : Reach cfg roots h := by
  induction r with
  | root a b c => exact Reach.root a b c hs
  | link _ hg hc hne hex ih => exact Reach.link (ih (by rw [hg]; rfl)) hg hc hne hex hs

theorem results_sound {cfg : FCfg} {roots : List Hash} {s : FState} (w : WF cfg roots s) {e : Entry}
    (he : e ∈ s.results) : ∃ h, Reach cfg roots h ∧ get? cfg.store h = some e := by
  obtain ⟨hd, hg⟩ := w.resDone e he
  refine ⟨e.hash, ?_, hg⟩
  exact (w.req e.hash (known_iff.mp (Or.inr (Or.inr (Or.inl hd))))).reach (by rw [hg]; rfl)

/-- for any limit -/
structure BInv (cfg : FCfg) (roots : List Hash) (s : FState) : Prop where
  rootsK : ∀ h ∈ roots, h ≠ [] → cfg.excluded h = false → s.known h
  failedAbsent : s.cancelled = false → ∀ h ∈ s.failed, get? cfg.store h = none

theorem BInv_finit (cfg : FCfg) (roots : List Hash) : BInv cfg roots (finit cfg roots) where
  rootsK := fun h hm hne hex => known_of_mem_addHashes hm hne hex
  failedAbsent := by rw [finit_eq]; exact fun _ _ h => nomatch h

theorem BInv_fstep {cfg : FCfg} {roots : List Hash} {s s' : FState} {ev : FEvent}
    (u : BInv cfg roots s) (hs : fstep cfg s ev = some s') : BInv cfg roots s' := by
  refine ⟨fun x hm hne hex => known_mono hs (u.rootsK x hm hne hex), ?_⟩
  cases FStep.of hs with
  | dispatch => exact u.failedAbsent
  | none _ hwhy =>
    intro hc x hx
    have hc' : s.cancelled = false := hc
    cases hx with
    | head => exact hwhy.elim id (fun h1 => by rw [hc'] at h1; cases h1)
    | tail _ hm => exact u.failedAbsent hc' x hm
  | found => rw [addHashes_eq]; exact u.failedAbsent
  | cancel => exact fun hc => nomatch hc

theorem BInv_accepted {cfg : FCfg} {roots : List Hash} {evs : List FEvent} {s : FState}
    (hr : accepted cfg roots evs = some s) : BInv cfg roots s :=
  frun_induct (BInv cfg roots) (fun _ _ _ u h => BInv_fstep u h) evs _ s (BInv_finit cfg roots) hr

theorem BInv.settle {cfg : FCfg} {roots : List Hash} {s : FState} (b : BInv cfg roots s) (hq : quiescent s)
    (hc : s.cancelled = false) {x : Hash} (hk : s.known x) (hs : (get? cfg.store x).isSome) : x ∈ s.done := by
  rcases hk with hk | hk | hk | hk
  · rw [hq.1] at hk; cases hk
  · rw [hq.2] at hk; cases hk
  · exact hk
  · rw [b.failedAbsent hc x hk] at hs; cases hs

/-- without a limit -/
structure UInv (cfg : FCfg) (roots : List Hash) (s : FState) : Prop where
  rootsK : ∀ h ∈ roots, h ≠ [] → cfg.excluded h = false → s.known h
  admitted : ∀ h ∈ s.done, ∀ e, get? cfg.store h = some e → e ∈ s.results
  children : ∀ h ∈ s.done, ∀ e, get? cfg.store h = some e → ∀ c ∈ e.next ++ e.refs, c ≠ [] →
    cfg.excluded c = false → s.known c
  failedAbsent : s.cancelled = false → ∀ h ∈ s.failed, get? cfg.store h = none

theorem UInv.toBInv {cfg : FCfg} {roots : List Hash} {s : FState} (u : UInv cfg roots s) : BInv cfg roots s :=
  ⟨u.rootsK, u.failedAbsent⟩

theorem UInv_finit (cfg : FCfg) (roots : List Hash) : UInv cfg roots (finit cfg roots) where
  rootsK := (BInv_finit cfg roots).rootsK
  admitted := by rw [finit_eq]; exact fun _ h => nomatch h
  children := by rw [finit_eq]; exact fun _ h => nomatch h
  failedAbsent := (BInv_finit cfg roots).failedAbsent

theorem UInv.mono {cfg : FCfg} {roots : List Hash} {s s' : FState} (u : UInv cfg roots s) (b : BInv cfg roots s')
    (hd : s'.done = s.done) (hr : s'.results = s.results) (hk : ∀ x, s.known x → s'.known x) : UInv cfg roots s' where
  rootsK := b.rootsK
  admitted := by rw [hd, hr]; exact u.admitted
  children := by rw [hd]; exact fun h hh e he c hc hne hex => hk c (u.children h hh e he c hc hne hex)
  failedAbsent := b.failedAbsent

theorem UInv_fstep {cfg : FCfg} {roots : List Hash} (hlen : cfg.length < 0) {s s' : FState} {ev : FEvent}
    (u : UInv cfg roots s) (hs : fstep cfg s ev = some s') : UInv cfg roots s' := by
  have b := BInv_fstep u.toBInv hs
  cases FStep.of hs with
  | dispatch | none | cancel => exact u.mono b rfl rfl fun _ => known_mono hs
  | @found h e L hp hg _ hall =>
    -- unbounded mode: the entry is admitted and all its links are queued
    cases hall hlen
    have hdone : (addHashes cfg (fbase cfg s h e) (e.next ++ e.refs)).done = h :: s.done := by
      rw [addHashes_eq]; rfl
    have hres : (addHashes cfg (fbase cfg s h e) (e.next ++ e.refs)).results = s.results ++ [e] := by
      rw [addHashes_eq]; simp [fbase, admits, hlen]
    refine ⟨b.rootsK, ?_, ?_, b.failedAbsent⟩
    · rw [hdone, hres]
      intro x hx e' he'
      cases hx with
      | head => cases hg.symm.trans he'; exact List.mem_append_right _ List.mem_cons_self
      | tail _ hm => exact List.mem_append_left _ (u.admitted x hm e' he')
    · rw [hdone]
      intro x hx e' he' c hc hne hex
      cases hx with
      | head => cases hg.symm.trans he'; exact known_of_mem_addHashes hc hne hex
      | tail _ hm => exact known_mono hs (u.children x hm e' he' c hc hne hex)

theorem UInv_accepted {cfg : FCfg} {roots : List Hash} (hlen : cfg.length < 0) {evs : List FEvent} {s : FState}
    (hr : accepted cfg roots evs = some s) : UInv cfg roots s :=
  frun_induct (UInv cfg roots) (fun _ _ _ u h => UInv_fstep hlen u h) evs _ s (UInv_finit cfg roots) hr

theorem reach_done {cfg : FCfg} {roots : List Hash} {s : FState} (u : UInv cfg roots s) (hq : quiescent s)
    (hc : s.cancelled = false) {h : Hash} (r : Reach cfg roots h) : h ∈ s.done := by
  induction r with
  | root a b c d => exact u.toBInv.settle hq hc (u.rootsK _ a b c) d
  | link _ hg hcm hne hex hs ih => exact u.toBInv.settle hq hc (u.children _ ih _ hg _ hcm hne hex) hs

theorem unbounded_complete {cfg : FCfg} {roots : List Hash} (hlen : cfg.length < 0) {evs : List FEvent}
    {s : FState} (hr : accepted cfg roots evs = some s) (hq : quiescent s) (hc : s.cancelled = false)
    (e : Entry) : e ∈ s.results ↔ ∃ h, Reach cfg roots h ∧ get? cfg.store h = some e :=
  have u := UInv_accepted hlen hr
  ⟨results_sound (WF_accepted hr), fun ⟨h, r, hg⟩ => u.admitted h (reach_done u hq hc r) e hg⟩

def links (o : Option Entry) : List Hash := o.elim [] fun e => e.next ++ e.refs

inductive ReqX (store : List Entry) (ok : Hash → Bool) (roots : List Hash) : Hash → Prop
  | root {h : Hash} : h ∈ roots → ok h = true → ReqX store ok roots h
  | link {h c : Hash} : ReqX store ok roots h → c ∈ links (get? store h) → ok c = true → ReqX store ok roots c

theorem reachLoopX_visit (store : List Entry) (ok : Hash → Bool) (f : Nat) (h : Hash) (st seen : List Hash)
    (res : List Entry) (hv : (seen.contains h || !ok h) = false) :
    reachLoopX store ok (f + 1) (h :: st) seen res =
      reachLoopX store ok f (st ++ links (get? store h)) (h :: seen) (res ++ (get? store h).toList) := by
  rw [reachLoopX, if_neg (by rw [hv]; exact Bool.false_ne_true)]
  cases get? store h with
  | none => simp [links]
  | some e => simp [links]

/-- the links of the blocks not yet visited: with the stack length, what the loop consumes -/
def linkSum (seen : List Hash) : List Entry → Nat
  | [] => 0
  | e :: t => (if seen.contains e.hash then 0 else (links (some e)).length) + linkSum seen t

theorem linkSum_visit {h : Hash} {seen : List Hash} (hns : seen.contains h = false) :
    ∀ l : List Entry, linkSum (h :: seen) l + (links (get? l h)).length ≤ linkSum seen l
  | [] => Nat.le_refl _
  | a :: t => by
    have ih := linkSum_visit hns t
    simp only [linkSum, get?, List.find?_cons, List.contains_cons] at ih ⊢
    cases hh : a.hash == h with
    | false => simp only [Bool.false_or]; omega
    | true => rw [eq_of_beq hh, hns]; simp only [Bool.true_or, Bool.false_eq_true, if_true, if_false]; omega

theorem foldl_links_eq (l : List Entry) : ∀ k : Nat,
    l.foldl (fun n e => n + e.next.length + e.refs.length) k = k + linkSum [] l := by
  induction l with
  | nil => intro k; simp [linkSum]
  | cons e t ih => intro k; simp only [List.foldl_cons, linkSum, List.contains_nil]; rw [ih]; simp [links]; omega

structure LoopInv (store : List Entry) (ok : Hash → Bool) (roots : List Hash)
    (st seen : List Hash) (res : List Entry) : Prop where
  seenReq : ∀ h ∈ seen, ReqX store ok roots h
  stReq : ∀ h ∈ st, ok h = true → ReqX store ok roots h
  seenND : seen.Nodup
  resEq : res = seen.reverse.filterMap (get? store)
  /-- a wanted root, or wanted link of a visited block, has been visited or is on the stack -/
  closed : ∀ x, ok x = true ∧ (x ∈ roots ∨ ∃ h ∈ seen, x ∈ links (get? store h)) → x ∈ seen ∨ x ∈ st

theorem reachLoopX_inv {store : List Entry} {ok : Hash → Bool} {roots : List Hash} :
    ∀ (fuel : Nat) (st seen : List Hash) (res : List Entry), LoopInv store ok roots st seen res →
      st.length + linkSum seen store < fuel →
      ∃ seen', LoopInv store ok roots [] seen' (reachLoopX store ok fuel st seen res)
  | 0, _, _, _, _, hf => absurd hf (Nat.not_lt_zero _)
  | f + 1, [], seen, res, inv, _ => ⟨seen, by simpa [reachLoopX] using inv⟩
  | f + 1, h :: st, seen, res, inv, hf => by
    rw [List.length_cons] at hf
    cases hv : seen.contains h || !ok h with
    | true =>
      rw [reachLoopX, if_pos hv]
      refine reachLoopX_inv f st seen res
        { inv with stReq := fun x hx => inv.stReq x (List.mem_cons_of_mem _ hx), closed := fun x fx => ?_ }
        (by omega)
      rcases inv.closed x fx with h1 | h1
      · exact Or.inl h1
      · cases h1 with
        | tail _ hm => exact Or.inr hm
        | head => exact Or.inl (by simpa [fx.1] using hv)
    | false =>
      rw [reachLoopX_visit _ _ _ _ _ _ _ hv]
      obtain ⟨hns, hok⟩ : seen.contains h = false ∧ ok h = true := by simpa using hv
      have hnm : h ∉ seen := by simpa using hns
      have hreq : ReqX store ok roots h := inv.stReq h List.mem_cons_self hok
      have shift : ∀ {x}, x ∈ seen ∨ x ∈ h :: st → x ∈ h :: seen ∨ x ∈ st ++ links (get? store h) := by grind
      refine reachLoopX_inv f _ (h :: seen) _ ⟨?_, ?_, List.nodup_cons.mpr ⟨hnm, inv.seenND⟩, ?_, ?_⟩ ?_
      · intro x hx
        cases hx with
        | head => exact hreq
        | tail _ hm => exact inv.seenReq x hm
      · intro x hx hokx
        exact (List.mem_append.mp hx).elim (fun h1 => inv.stReq x (List.mem_cons_of_mem _ h1) hokx)
          (fun h1 => .link hreq h1 hokx)
      · rw [List.reverse_cons, List.filterMap_append, ← inv.resEq]
        cases hg : get? store h <;> simp [hg]
      · intro x fx
        rcases fx.2 with hr | ⟨y, hy, hx⟩
        · exact shift (inv.closed x ⟨fx.1, Or.inl hr⟩)
        · cases hy with
          | head => exact Or.inr (List.mem_append_right _ hx)
          | tail _ hm => exact shift (inv.closed x ⟨fx.1, Or.inr ⟨y, hm, hx⟩⟩)
      · have := linkSum_visit hns store
        rw [List.length_append]
        omega

theorem map_hash_filterMap_get? (store : List Entry) : ∀ l : List Hash,
    ((l.filterMap (get? store)).map (·.hash)).Sublist l
  | [] => .slnil
  | h :: l => by
    rw [List.filterMap_cons]
    split
    · exact (map_hash_filterMap_get? store l).cons _
    · rename_i e hg
      rw [List.map_cons, (get?_mem hg).2]
      exact (map_hash_filterMap_get? store l).cons_cons _

theorem reachLoopX_spec (store : List Entry) (ok : Hash → Bool) (roots : List Hash) :
    let res := reachLoopX store ok (reachFuel store roots) roots [] []
    (∀ e, e ∈ res ↔ ∃ h, ReqX store ok roots h ∧ get? store h = some e) ∧ (res.map (·.hash)).Nodup := by
  intro res
  obtain ⟨seen, inv⟩ := reachLoopX_inv (reachFuel store roots) roots [] []
    (⟨nofun, fun _ hm hok => ReqX.root hm hok, List.nodup_nil, rfl,
      fun _ fx => fx.2.elim Or.inr (fun ⟨_, hy, _⟩ => nomatch hy)⟩ : LoopInv store ok roots roots [] [])
    (by rw [reachFuel, foldl_links_eq]; omega)
  have hres : res = seen.reverse.filterMap (get? store) := inv.resEq
  have hmem : ∀ e, e ∈ res ↔ ∃ h ∈ seen, get? store h = some e := fun e => by
    rw [hres, List.mem_filterMap]
    simp only [List.mem_reverse]
  refine ⟨fun e => (hmem e).trans ⟨fun ⟨h, hs, hg⟩ => ⟨h, inv.seenReq h hs, hg⟩, ?_⟩, ?_⟩
  · -- the stack is empty: `seen` is closed
    rintro ⟨h, r, hg⟩
    refine ⟨h, ?_, hg⟩
    clear hg
    induction r with
    | root a b => exact (inv.closed _ ⟨b, Or.inl a⟩).elim id nofun
    | link _ hc hok ih => exact (inv.closed _ ⟨hok, Or.inr ⟨_, ih, hc⟩⟩).elim id nofun
  · rw [hres]
    exact (map_hash_filterMap_get? store _).nodup ((List.reverse_perm seen).nodup_iff.mpr inv.seenND)

theorem reachLoop_eq (store : List Entry) : ∀ (fuel : Nat) (st seen : List Hash) (res : List Entry),
    reachLoop store fuel st seen res = reachLoopX store (fun _ => true) fuel st seen res
  | 0, _, _, _ => rfl
  | _ + 1, [], _, _ => rfl
  | f + 1, h :: st, seen, res => by
    cases hg : get? store h <;>
      simp only [reachLoop, reachLoopX, hg, Bool.not_true, Bool.or_false, reachLoop_eq store f]

theorem reqX_iff_reach {cfg : FCfg} {roots : List Hash} {ok : Hash → Bool}
    (hok : ∀ x, (get? cfg.store x).isSome → (ok x = true ↔ x ≠ [] ∧ cfg.excluded x = false)) {h : Hash}
    (hs : (get? cfg.store h).isSome) : ReqX cfg.store ok roots h ↔ Reach cfg roots h := by
  constructor
  · intro r
    induction r with
    | root a b => exact Reach.root a ((hok _ hs).mp b).1 ((hok _ hs).mp b).2 hs
    | @link p _ _ hc b ih =>
      cases hg : get? cfg.store p with
      | none => rw [hg] at hc; cases hc
      | some e =>
        rw [hg] at hc
        exact Reach.link (ih (hg ▸ rfl)) hg hc ((hok _ hs).mp b).1 ((hok _ hs).mp b).2 hs
  · intro r
    induction r with
    | root a b c d => exact ReqX.root a ((hok _ d).mpr ⟨b, c⟩)
    | link _ hg hc b c d ih => exact ReqX.link (ih (hg ▸ rfl)) (hg ▸ hc) ((hok _ d).mpr ⟨b, c⟩)

theorem mem_reachX_iff (cfg : FCfg) (roots : List Hash) (e : Entry) :
    e ∈ reachX cfg roots ↔ ∃ h, Reach cfg roots h ∧ get? cfg.store h = some e :=
  -- `reachX` is this loop with the fuel written out (`Model.Fetcher` does not import `Model.Loaders`): that is
  -- `reachFuel` up to `rfl`
  ((reachLoopX_spec cfg.store (okHash cfg) roots).1 e).trans
    (exists_congr fun _ => and_congr_left fun hg => reqX_iff_reach (fun x _ => by simp [okHash]) (hg ▸ rfl))

theorem reachX_nodup (cfg : FCfg) (roots : List Hash) : ((reachX cfg roots).map (·.hash)).Nodup :=
  (reachLoopX_spec cfg.store (okHash cfg) roots).2

theorem ne_nil_of_stored {store : List Entry} (hundef : get? store [] = none) {h : Hash}
    (hs : (get? store h).isSome) : h ≠ [] := fun hh => by
  rw [hh, hundef] at hs
  cases hs

theorem mem_reach_iff (cfg : FCfg) (roots : List Hash) (hex : ∀ h, cfg.excluded h = false)
    (hundef : get? cfg.store [] = none) (e : Entry) :
    e ∈ reach cfg.store roots ↔ ∃ h, Reach cfg roots h ∧ get? cfg.store h = some e := by
  rw [reach, reachLoop_eq]
  exact ((reachLoopX_spec cfg.store (fun _ => true) roots).1 e).trans
    (exists_congr fun _ => and_congr_left fun hg => reqX_iff_reach
      (fun x hs => ⟨fun _ => ⟨ne_nil_of_stored hundef hs, hex x⟩, fun _ => rfl⟩) (hg ▸ rfl))

theorem reach_nodup (store : List Entry) (roots : List Hash) : ((reach store roots).map (·.hash)).Nodup := by
  rw [reach, reachLoop_eq]
  exact (reachLoopX_spec store (fun _ => true) roots).2

/-- Ancestors (inclusive) of the start hashes along `next`.  `Proofs/ConcSeq.lean` declares another `Model.Anc`
    (ancestors inside one entry list): the two modules cannot be imported together. -/
inductive Anc (cfg : FCfg) (roots : List Hash) : Hash → Prop
  | root {h : Hash} : h ∈ roots → Anc cfg roots h
  | next {h c : Hash} {e : Entry} : Anc cfg roots h → get? cfg.store h = some e → c ∈ e.next → Anc cfg roots c

theorem Reach.anc {cfg : FCfg} {roots : List Hash}
    (hrefs : ∀ h e, Anc cfg roots h → get? cfg.store h = some e → ∀ c ∈ e.refs, Anc cfg roots c)
    {h : Hash} (r : Reach cfg roots h) : Anc cfg roots h := by
  induction r with
  | root a _ _ _ => exact Anc.root a
  | link _ hg hc _ _ _ ih =>
    rcases List.mem_append.mp hc with h1 | h1
    · exact Anc.next ih hg h1
    · exact hrefs _ _ ih hg _ h1

theorem Anc.reach {cfg : FCfg} {roots : List Hash} (hex : ∀ h, cfg.excluded h = false)
    (hundef : get? cfg.store [] = none) {h : Hash} (a : Anc cfg roots h) (hs : (get? cfg.store h).isSome) :
    Reach cfg roots h := by
  induction a with
  | root hm => exact Reach.root hm (ne_nil_of_stored hundef hs) (hex _) hs
  | next _ hgp hcm ih =>
    exact Reach.link (ih (hgp ▸ rfl)) hgp (List.mem_append_left _ hcm) (ne_nil_of_stored hundef hs) (hex _) hs

end Model
