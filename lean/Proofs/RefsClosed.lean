import Proofs.System
import Proofs.AppendRefs
/-!
# Proofs.RefsClosed — skip references stay inside the replica

In every reachable system state (`reachable_refsIn`): `Append` takes its references from a traversal of its
own entries; an unbounded `Join` brings in the whole other replica.  Together with `Inv.closed` (closure under
`next`) this is the "closed under `next ++ refs`" hypothesis of the fetcher theorems (`C09.SourceInStore`).
-/
namespace Model

def RefsIn (l : Log) : Prop := ∀ e ∈ l.entries, ∀ r ∈ e.refs, r ∈ hashes l.entries

theorem refsIn_emptyLog (id cid : Bytes) (k : SortKind) : RefsIn (emptyLog id cid k) :=
  fun _ he => nomatch he

theorem refsIn_append {U : List Entry} {l : Log} (I : Inv U l) (R : RefsIn l) (pc : Int) (h : Hash) (tag : Nat)
    (hfresh : h ∉ hashes U) : RefsIn (append l pc h tag).2 := by
  intro e he r hr
  rw [append_entries_of_fresh I pc h tag hfresh] at he ⊢
  refine hashes_subset (fun y hy => List.mem_append_left _ hy) ?_
  rcases List.mem_append.mp he with h1 | h1
  · exact R e h1 r hr
  · rw [List.mem_singleton.mp h1] at hr
    exact ((appendPlan_refs I pc).1 r hr).1

theorem refsIn_join {U : List Entry} (hU : (hashes U).Nodup) {A B : Log} (IA : Inv U A) (IB : Inv U B)
    (hid : A.id = B.id) (RA : RefsIn A) (RB : RefsIn B) : RefsIn (joinU A B) := by
  intro e he r hr
  have hJ : ∀ x, x ∈ jEntries A B ↔ x ∈ A.entries ∨ x ∈ B.entries := fun x => mem_jEntries hU IA IB hid
  rcases (hJ e).mp he with h1 | h1
  · exact hashes_subset (fun x hx => (hJ x).mpr (Or.inl hx)) (RA e h1 r hr)
  · exact hashes_subset (fun x hx => (hJ x).mpr (Or.inr hx)) (RB e h1 r hr)

theorem refsIn_step {s s' : Sys} (I : SysInv s) (R : ∀ r l, s.logs r = some l → RefsIn l) {op : Op}
    (hstep : s.step op = some s') : ∀ r l, s'.logs r = some l → RefsIn l := by
  have old : ∀ {t : Nat} r l, r ≠ t → s.logs r = some l → RefsIn l := fun r l _ => R r l
  cases step_shape hstep with
  | joinNop => exact R
  | newLog id cid k => exact forall_upd (refsIn_emptyLog id cid k) old
  | @setIdentity r l cid hl => exact forall_upd (v := setIdentity l cid) (R r l hl) old
  | append pc tag hl hf => exact forall_upd (refsIn_append (I.inv _ _ hl) (R _ _ hl) pc _ tag hf) old
  | join ha hb hid =>
    exact forall_upd (refsIn_join I.uni (I.inv _ _ ha) (I.inv _ _ hb) hid (R _ _ ha) (R _ _ hb)) old
  | @rebuild src l cid ents wh hl hg =>
    obtain ⟨_, _, hE, _, _⟩ := rebuild_spec I.uni (I.inv src l hl) cid wh hg
    exact forall_upd (fun e he r hr' => hashes_subset (fun y hy => (hE y).mpr hy) (R src l hl e ((hE e).mp he) r hr')) old

theorem reachable_refsIn {s : Sys} (hr : Reachable s) {r : Nat} {l : Log} (hl : s.logs r = some l) : RefsIn l :=
  reachable_induction (P := fun s => ∀ r l, s.logs r = some l → RefsIn l) (fun _ _ h => nomatch h)
    (fun I R hs => refsIn_step I R hs) hr r l hl

end Model
