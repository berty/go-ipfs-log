import Proofs.Cmp
import Proofs.OMap
/-!
# Proofs.Traverse — `IPFSLog.traverse`: from any roots, with an amount and with an end hash

The code does not mark the roots as traversed, so a root that is also reached as a predecessor of
another root is pushed a second time; the second pop emits nothing (`Set` keeps the first) but
increments `count`.  Hence emitted and stacked entries together are only non-strictly descending
(`GInv.ord`, `goSort_sortedW`), the worklist invariant `GInv` has no `Nodup`/disjointness clause for the
stack (the strict `LInv` has them; it is kept when no root is below a root, `step_invL`), and the fuel
argument counts `stack.length + unmarked (hashes E) trav`.  The loop body is used through its closed form
`nxt_spec` (the inner loop: `pushNexts_eq`).  An amount and an end hash are handled by comparing the loop with
the unbounded loop from the same state (`travLoop_prefix`, `travLoop_endHash`, `travLoop_take`).
-/
namespace Model

/-- `Desc E a b`: `b` is reachable from `a` along `next` links resolved inside `E` -/
inductive Desc (E : List Entry) : Entry → Entry → Prop
  | refl (a : Entry) : a ∈ E → Desc E a a
  | step {a b p : Entry} {c : Hash} : Desc E a b → c ∈ b.next → get? E c = some p → Desc E a p

theorem Desc.mem_right {E : List Entry} {a b : Entry} (h : Desc E a b) : b ∈ E := by
  induction h with
  | refl ha => exact ha
  | step _ _ hg _ => exact (get?_mem hg).1

theorem Desc.mem_left {E : List Entry} {a b : Entry} (h : Desc E a b) : a ∈ E := by
  induction h with
  | refl ha => exact ha
  | step _ _ _ ih => exact ih

/-- what the traversal theorems ask of the entry set and the ordering -/
structure CtxG (E : List Entry) (lt : Entry → Entry → Bool) : Prop where
  nodupH : (E.map (·.hash)).Nodup
  sto : STO lt (· ∈ E)
  mono : ∀ e ∈ E, ∀ c ∈ e.next, ∀ p, get? E c = some p → lt e p = true

/-- `CtxG` together with roots that are entries of `E` which nothing names -/
structure Ctx (E : List Entry) (lt : Entry → Entry → Bool) (roots : List Entry) : Prop where
  nodupH : (E.map (·.hash)).Nodup
  sto : STO lt (· ∈ E)
  mono : ∀ e ∈ E, ∀ c ∈ e.next, ∀ p, get? E c = some p → lt e p = true
  rootsIn : ∀ r ∈ roots, r ∈ E
  rootsUnref : ∀ e ∈ E, ∀ c ∈ e.next, ∀ p, get? E c = some p → p ∉ roots

theorem Ctx.toG {E : List Entry} {lt : Entry → Entry → Bool} {roots : List Entry} (C : Ctx E lt roots) : CtxG E lt :=
  ⟨C.nodupH, C.sto, C.mono⟩

/-- result of the inner loop when `e` has just been popped -/
def nxt (E : List Entry) (e : Entry) (rest : List Entry) (trav : List Hash) : List Entry × List Hash × Bool :=
  pushNexts E e.next (rest, e.hash :: trav, false)

/-- the stack after the body (re-sorted when something was pushed) -/
def nxtStack (E : List Entry) (lt : Entry → Entry → Bool) (e : Entry) (rest : List Entry) (trav : List Hash) :
    List Entry :=
  if (nxt E e rest trav).2.2 then goSort lt (nxt E e rest trav).1 else (nxt E e rest trav).1

theorem travLoop_cons (E : List Entry) (lt : Entry → Entry → Bool) (amount : Int) (eh : Option Hash)
    (fuel : Nat) (e : Entry) (rest : List Entry) (trav : List Hash) (res : List Entry) (count : Int) :
    travLoop E lt amount eh (fuel + 1) (e :: rest) trav res count =
      if amount < 0 ∨ count < amount then
        if eh = some e.hash then omSet res e
        else travLoop E lt amount eh fuel (nxtStack E lt e rest trav) (nxt E e rest trav).2.1 (omSet res e) (count + 1)
      else res := rfl

theorem travLoop_unb_cons (E : List Entry) (lt : Entry → Entry → Bool)
    (fuel : Nat) (e : Entry) (rest : List Entry) (trav : List Hash) (res : List Entry) (count : Int) :
    travLoop E lt (-1) none (fuel + 1) (e :: rest) trav res count =
      travLoop E lt (-1) none fuel (nxtStack E lt e rest trav) (nxt E e rest trav).2.1 (omSet res e) (count + 1) := by
  rw [travLoop_cons, if_pos (Or.inl (by decide)), if_neg nofun]

theorem travLoop_nil (E : List Entry) (lt : Entry → Entry → Bool) (amount : Int) (eh : Option Hash)
    (fuel : Nat) (trav : List Hash) (res : List Entry) (count : Int) :
    travLoop E lt amount eh fuel [] trav res count = res := by
  cases fuel <;> rfl

theorem travLoop_zero (E : List Entry) (lt : Entry → Entry → Bool) (amount : Int) (eh : Option Hash)
    (stack : List Entry) (trav : List Hash) (res : List Entry) (count : Int) :
    travLoop E lt amount eh 0 stack trav res count = res := rfl

/-! ## facts about the loop that need no invariant -/

theorem travLoop_extends (E : List Entry) (lt : Entry → Entry → Bool) (amount : Int) (eh : Option Hash) :
    ∀ (fuel : Nat) (stack : List Entry) (trav : List Hash) (res : List Entry) (count : Int),
      res <+: travLoop E lt amount eh fuel stack trav res count
  | 0, _, _, _, _ => List.prefix_rfl
  | _ + 1, [], _, _, _ => List.prefix_rfl
  | fuel + 1, e :: rest, trav, res, count => by
    rw [travLoop_cons]
    split
    · split
      · exact prefix_omSet res e
      · exact (prefix_omSet res e).trans (travLoop_extends E lt amount eh fuel _ _ _ _)
    · exact List.prefix_rfl

theorem travLoop_prefix (E : List Entry) (lt : Entry → Entry → Bool) (amount : Int) (eh : Option Hash) :
    ∀ (fuel : Nat) (stack : List Entry) (trav : List Hash) (res : List Entry) (count : Int),
      travLoop E lt amount eh fuel stack trav res count <+: travLoop E lt (-1) none fuel stack trav res count
  | 0, _, _, _, _ => List.prefix_rfl
  | _ + 1, [], _, _, _ => List.prefix_rfl
  | fuel + 1, e :: rest, trav, res, count => by
    rw [travLoop_unb_cons, travLoop_cons]
    split
    · split
      · exact travLoop_extends E lt (-1) none fuel _ _ _ _
      · exact travLoop_prefix E lt amount eh fuel _ _ _ _
    · exact (prefix_omSet res e).trans (travLoop_extends E lt (-1) none fuel _ _ _ _)

theorem traverseG_isPrefix (E : List Entry) (lt : Entry → Entry → Bool) (roots : List Entry) (amount : Int)
    (eh : Option Hash) : traverseG E lt roots amount eh <+: traverseG E lt roots (-1) none :=
  travLoop_prefix E lt amount eh _ _ _ _ _

theorem traverseG_prefix (E : List Entry) (lt : Entry → Entry → Bool) (roots : List Entry) (amount : Int)
    (eh : Option Hash) : ∃ t, traverseG E lt roots (-1) none = traverseG E lt roots amount eh ++ t :=
  let ⟨t, ht⟩ := traverseG_isPrefix E lt roots amount eh
  ⟨t, ht.symm⟩

theorem traverseG_head {E : List Entry} {lt : Entry → Entry → Bool} {roots : List Entry} {amount : Int}
    {e0 : Entry} {t : List Entry} (h : traverseG E lt roots amount none = e0 :: t) : e0 ∈ roots := by
  unfold traverseG traverseFuel at h
  cases hs : goSort lt roots with
  | nil => rw [hs, travLoop_nil] at h; cases h
  | cons r rs =>
    rw [hs, travLoop_cons] at h
    split at h
    · -- the first pop emits the first sorted root `r`, and the loop only appends to `[r]`
      rw [if_neg nofun] at h
      obtain ⟨t', ht'⟩ := travLoop_extends E lt amount none (roots.length + E.length) (nxtStack E lt r rs [])
        (nxt E r rs []).2.1 [r] (0 + 1)
      exact (List.cons.inj (ht'.trans h)).1 ▸ mem_goSort.mp (hs ▸ List.mem_cons_self)
    · cases h

/-- `l` up to and including its first entry that carries `g`; all of `l` when there is none -/
def upTo (g : Hash) (l : List Entry) : List Entry :=
  l.takeWhile (fun e => e.hash != g) ++ (l.find? (fun e => e.hash == g)).toList

theorem upTo_of_not_mem {g : Hash} {l : List Entry} (h : ∀ r ∈ l, r.hash ≠ g) : upTo g l = l := by
  have := List.takeWhile_append_of_pos (p := fun e : Entry => e.hash != g) (l₂ := []) (fun r hr => by simpa using h r hr)
  rw [upTo, List.find?_eq_none.mpr (by simpa using h)]
  simpa using this

theorem upTo_append_cons {g : Hash} {l : List Entry} (h : ∀ r ∈ l, r.hash ≠ g) {x : Entry} (hx : x.hash = g)
    (t : List Entry) : upTo g (l ++ x :: t) = l ++ [x] := by
  rw [upTo, List.takeWhile_append_of_pos (fun r hr => by simpa using h r hr),
    List.takeWhile_cons_of_neg (by simpa using hx), List.find?_append,
    List.find?_eq_none.mpr (by simpa using h), List.find?_cons_of_pos (by simpa using hx)]
  simp

theorem upTo_of_mem {U : List Entry} (hU : (hashes U).Nodup) {l : List Entry} (hl : ∀ y ∈ l, y ∈ U) {g : Hash}
    {x : Entry} (hx : x ∈ l) (hg : x.hash = g) : upTo g l = l.takeWhile (fun e => e.hash != g) ++ [x] := by
  rw [upTo]
  congr 1
  cases hf : l.find? (fun e => e.hash == g) with
  | none => exact absurd (by simpa using hg) (List.find?_eq_none.mp hf x hx)
  | some y =>
    have hyg : y.hash = g := by simpa using List.find?_some hf
    rw [eq_of_hash_eq hU (hl y (List.mem_of_find?_eq_some hf)) (hl x hx) (hyg.trans hg.symm)]
    rfl

theorem travLoop_endHash (E : List Entry) (lt : Entry → Entry → Bool) (g : Hash) :
    ∀ (fuel : Nat) (stack : List Entry) (trav : List Hash) (res : List Entry) (count : Int),
      (∀ r ∈ res, r.hash ≠ g) →
      travLoop E lt (-1) (some g) fuel stack trav res count = upTo g (travLoop E lt (-1) none fuel stack trav res count)
  | 0, _, _, res, _, h => (upTo_of_not_mem h).symm
  | _ + 1, [], _, res, _, h => (upTo_of_not_mem h).symm
  | fuel + 1, e :: rest, trav, res, count, h => by
    rw [travLoop_unb_cons, travLoop_cons, if_pos (Or.inl (by omega))]
    by_cases heg : e.hash = g
    · have hhas : has res e.hash = false := has_false_iff.mpr (fun r hr => heg ▸ h r hr)
      obtain ⟨t, ht⟩ := travLoop_extends E lt (-1) none fuel (nxtStack E lt e rest trav)
          (nxt E e rest trav).2.1 (res ++ [e]) (count + 1)
      rw [if_pos (by rw [heg]), omSet_of_not_has hhas, ← ht, List.append_assoc, List.singleton_append,
        upTo_append_cons h heg]
    · rw [if_neg (fun hh => heg (Option.some.inj hh).symm)]
      refine travLoop_endHash E lt g fuel _ _ _ _ (fun r hr => ?_)
      rcases mem_omSet.mp hr with h1 | ⟨rfl, _⟩
      · exact h r h1
      · exact heg

theorem traverse_endHash_find (E : List Entry) (lt : Entry → Entry → Bool) (roots : List Entry) (g : Hash) :
    traverseG E lt roots (-1) (some g) = upTo g (traverseG E lt roots (-1) none) :=
  travLoop_endHash E lt g _ _ _ _ _ (by simp)

theorem travLoop_length (E : List Entry) (lt : Entry → Entry → Bool) (amount : Int) (endHash : Option Hash)
    (ha : 0 ≤ amount) :
    ∀ (fuel : Nat) (stack : List Entry) (trav : List Hash) (res : List Entry) (count : Int),
      count ≤ amount →
      (travLoop E lt amount endHash fuel stack trav res count).length ≤ res.length + (amount - count).toNat
  | 0, _, _, _, _, _ => Nat.le_add_right _ _
  | _ + 1, [], _, _, _, _ => by rw [travLoop_nil]; exact Nat.le_add_right _ _
  | fuel + 1, e :: rest, trav, res, count, hc => by
    rw [travLoop_cons]
    have hset := length_omSet_le res e
    split
    · split
      · omega
      · have := travLoop_length E lt amount endHash ha fuel (nxtStack E lt e rest trav) (nxt E e rest trav).2.1
          (omSet res e) (count + 1) (by omega)
        omega
    · omega

theorem traverse_amount (E : List Entry) (lt : Entry → Entry → Bool) (roots : List Entry) (a : Int) (ha : 0 ≤ a) :
    (∃ t, traverseG E lt roots (-1) none = traverseG E lt roots a none ++ t) ∧
    (traverseG E lt roots a none).length ≤ a.toNat := by
  refine ⟨traverseG_prefix E lt roots a none, ?_⟩
  have := travLoop_length E lt a none ha (traverseFuel E roots) (goSort lt roots) [] [] 0 ha
  simpa [traverseG] using this

/-- `news` is what the inner loop pushes for the hashes `cs` when `tr` is marked -/
structure Pushed (E : List Entry) (cs : List Hash) (tr : List Hash) (news : List Entry) : Prop where
  found : ∀ x ∈ news, ∃ c ∈ cs, get? E c = some x
  fresh : ∀ x ∈ news, x.hash ∉ tr
  nodup : (hashes news).Nodup
  covers : ∀ c ∈ cs, ∀ p, get? E c = some p → p.hash ∈ hashes news ++ tr

theorem Pushed.skip {E : List Entry} {cs tr : List Hash} {news : List Entry} (P : Pushed E cs tr news) (c : Hash)
    (hc : ∀ p, get? E c = some p → p.hash ∈ tr) : Pushed E (c :: cs) tr news where
  found := fun x hx => (P.found x hx).imp fun _ h => ⟨List.mem_cons_of_mem _ h.1, h.2⟩
  fresh := P.fresh
  nodup := P.nodup
  covers := List.forall_mem_cons.mpr ⟨fun p hp => List.mem_append_right _ (hc p hp), P.covers⟩

theorem Pushed.push {E : List Entry} {cs tr : List Hash} {news : List Entry} {n : Entry}
    (P : Pushed E cs (n.hash :: tr) news) (hn : n.hash ∉ tr) {c : Hash} (hg : get? E c = some n) :
    Pushed E (c :: cs) tr (news ++ [n]) where
  found := fun x hx => (List.mem_append.mp hx).elim
    (fun h => (P.found x h).imp fun _ h => ⟨List.mem_cons_of_mem _ h.1, h.2⟩)
    (fun h => ⟨c, List.mem_cons_self, List.mem_singleton.mp h ▸ hg⟩)
  fresh := fun x hx => (List.mem_append.mp hx).elim
    (fun h ht => P.fresh x h (List.mem_cons_of_mem _ ht)) (fun h => List.mem_singleton.mp h ▸ hn)
  nodup := nodup_hashes_snoc P.nodup fun h =>
    let ⟨x, hx, e⟩ := mem_hashes.mp h
    P.fresh x hx (e ▸ List.mem_cons_self)
  covers := by
    intro c' hc' p hp
    have : p.hash ∈ hashes news ++ n.hash :: tr := by
      rcases List.mem_cons.mp hc' with rfl | hc'
      · rw [hg] at hp; cases hp
        exact List.mem_append_right _ List.mem_cons_self
      · exact P.covers c' hc' p hp
    simpa [hashes, or_assoc] using this

theorem pushNexts_eq (E : List Entry) : ∀ (cs : List Hash) (st : List Entry) (tr : List Hash) (m : Bool),
    ∃ news : List Entry,
      pushNexts E cs (st, tr, m) = (news ++ st, hashes news ++ tr, m || !news.isEmpty) ∧ Pushed E cs tr news
  | [], st, tr, m => ⟨[], by simp [pushNexts, hashes], by simp, by simp, by simp [hashes], by simp⟩
  | c :: cs, st, tr, m => by
    unfold pushNexts
    split
    · rename_i hg
      obtain ⟨news, h1, P⟩ := pushNexts_eq E cs st tr m
      exact ⟨news, h1, P.skip c fun p hp => by rw [hg] at hp; cases hp⟩
    · rename_i n hg
      split
      · rename_i hcont
        obtain ⟨news, h1, P⟩ := pushNexts_eq E cs st tr m
        exact ⟨news, h1, P.skip c fun p hp => by rw [hg] at hp; cases hp; simpa using hcont⟩
      · rename_i hcont
        obtain ⟨news, h1, P⟩ := pushNexts_eq E cs (n :: st) (n.hash :: tr) true
        exact ⟨news ++ [n], by simp [h1, hashes], P.push (by simpa using hcont) hg⟩

theorem nxt_spec (E : List Entry) (lt : Entry → Entry → Bool) (e : Entry) (rest : List Entry) (trav : List Hash) :
    ∃ news : List Entry, Pushed E e.next (e.hash :: trav) news ∧
      (nxt E e rest trav).2.1 = hashes news ++ e.hash :: trav ∧
      (nxtStack E lt e rest trav).Perm (news ++ rest) ∧
      (nxtStack E lt e rest trav = goSort lt (news ++ rest) ∨ nxtStack E lt e rest trav = rest) := by
  obtain ⟨news, hr, P⟩ := pushNexts_eq E e.next rest (e.hash :: trav) false
  refine ⟨news, P, by rw [nxt, hr], ?_⟩
  unfold nxtStack nxt
  rw [hr]
  cases news with
  | nil => exact ⟨List.Perm.refl _, Or.inr rfl⟩
  | cons n ns => exact ⟨goSort_perm _ _, Or.inl rfl⟩

theorem mem_nxtStack_cases {E : List Entry} {lt : Entry → Entry → Bool} {e : Entry} {rest : List Entry}
    {trav : List Hash} {x : Entry} (hx : x ∈ nxtStack E lt e rest trav) :
    x ∈ rest ∨ ∃ c ∈ e.next, get? E c = some x := by
  obtain ⟨news, P, -, hp, -⟩ := nxt_spec E lt e rest trav
  exact (List.mem_append.mp (hp.mem_iff.mp hx)).symm.imp_right (P.found x)

theorem travLoop_closed (E : List Entry) (lt : Entry → Entry → Bool) (amount : Int) (eh : Option Hash)
    (S : Entry → Prop) (hS : ∀ e, S e → ∀ c ∈ e.next, ∀ p, get? E c = some p → S p) :
    ∀ (fuel : Nat) (stack : List Entry) (trav : List Hash) (res : List Entry) (count : Int),
      (∀ x ∈ stack, S x) → (∀ x ∈ res, S x) →
      ∀ x ∈ travLoop E lt amount eh fuel stack trav res count, S x
  | 0, _, _, _, _, _, hr => hr
  | _ + 1, [], _, _, _, _, hr => hr
  | fuel + 1, e :: rest, trav, res, count, hs, hr => by
    rw [travLoop_cons]
    have he : S e := hs e List.mem_cons_self
    have hres' : ∀ x ∈ omSet res e, S x := fun x hx => (mem_omSet.mp hx).elim (hr x) (fun h => h.1 ▸ he)
    split
    · split
      · exact hres'
      · refine travLoop_closed E lt amount eh S hS fuel _ _ _ _ (fun x hx => ?_) hres'
        rcases mem_nxtStack_cases hx with h | ⟨c, hc, hg⟩
        · exact hs x (List.mem_cons_of_mem _ h)
        · exact hS e he c hc x hg
    · exact hr

theorem traverseG_closed {E : List Entry} {lt : Entry → Entry → Bool} {roots : List Entry} {amount : Int}
    {eh : Option Hash} {S : Entry → Prop} (hS : ∀ e, S e → ∀ c ∈ e.next, ∀ p, get? E c = some p → S p)
    (hroots : ∀ x ∈ roots, S x) : ∀ x ∈ traverseG E lt roots amount eh, S x :=
  travLoop_closed E lt amount eh S hS _ _ _ _ _ (fun x hx => hroots x (mem_goSort.mp hx)) (fun _ h => nomatch h)

theorem traverseG_subset {E : List Entry} {lt : Entry → Entry → Bool} {roots : List Entry} {amount : Int}
    {eh : Option Hash} (hroots : ∀ x ∈ roots, x ∈ E) : ∀ x ∈ traverseG E lt roots amount eh, x ∈ E :=
  traverseG_closed (fun _ _ _ _ _ hg => (get?_mem hg).1) hroots

theorem traverse_endHash {E : List Entry} {lt : Entry → Entry → Bool} {roots : List Entry} (C : CtxG E lt)
    (hin : ∀ r ∈ roots, r ∈ E) {g : Hash} {x : Entry} (hx : x ∈ traverseG E lt roots (-1) none)
    (hg : x.hash = g) :
    traverseG E lt roots (-1) (some g) =
      (traverseG E lt roots (-1) none).takeWhile (fun e => e.hash != g) ++ [x] := by
  rw [traverse_endHash_find]
  exact upTo_of_mem C.nodupH (traverseG_subset hin) hx hg

theorem values_closed (l : Log) (S : Entry → Prop) (hE : ∀ x ∈ l.entries, S x) (hH : ∀ x ∈ l.heads, S x) :
    ∀ x ∈ values l, S x := by
  intro x hx
  rw [values, List.mem_reverse] at hx
  exact traverseG_closed (fun _ _ _ _ p hg => hE p (get?_mem hg).1) hH x hx

/-- The worklist invariant for arbitrary roots.  Emitted and stacked entries together are inside `E` and
    non-strictly descending; `trav` holds the hashes of the emitted entries and of the stacked ones, roots
    still on the stack possibly excepted, and no others; at the empty stack `rootsCov` and `closedUpTo` say
    that the result contains the roots and is closed under the predecessors found in `E`. -/
structure GInv (E : List Entry) (lt : Entry → Entry → Bool) (roots : List Entry)
    (stack : List Entry) (trav : List Hash) (res : List Entry) : Prop where
  inE : ∀ x, x ∈ res ∨ x ∈ stack → x ∈ E
  ord : (res ++ stack).Pairwise (fun a b => lt a b = true ∨ a = b)
  resNodup : res.Nodup
  travRes : ∀ r ∈ res, r.hash ∈ trav
  travSt : ∀ s ∈ stack, s ∈ roots ∨ s.hash ∈ trav
  travOnly : ∀ h ∈ trav, ∃ x, (x ∈ res ∨ x ∈ stack) ∧ x.hash = h
  closedUpTo : ∀ r ∈ res, ∀ c ∈ r.next, ∀ p, get? E c = some p → p ∈ res ∨ p ∈ stack
  rootsCov : ∀ r ∈ roots, r ∈ res ∨ r ∈ stack

theorem GInv.resSorted {E : List Entry} {lt : Entry → Entry → Bool} {roots stack : List Entry} {trav : List Hash}
    {res : List Entry} (G : GInv E lt roots stack trav res) : res.Pairwise (fun a b => lt a b = true) :=
  ((List.pairwise_append.mp G.ord).1.and G.resNodup).imp (fun h => h.1.resolve_right h.2)

theorem step_invG {E : List Entry} {lt : Entry → Entry → Bool} {roots : List Entry} (C : CtxG E lt)
    {e : Entry} {rest : List Entry} {trav : List Hash} {res : List Entry}
    (I : GInv E lt roots (e :: rest) trav res) :
    GInv E lt roots (nxtStack E lt e rest trav) (nxt E e rest trav).2.1 (omSet res e) ∧
    (nxtStack E lt e rest trav).length + unmarked (hashes E) (nxt E e rest trav).2.1 <
      (e :: rest).length + unmarked (hashes E) trav := by
  obtain ⟨news, P, htr0, hp, hsort⟩ := nxt_spec E lt e rest trav
  obtain ⟨hres, hstk, hcross⟩ := List.pairwise_append.mp I.ord
  have heE : e ∈ E := I.inE e (Or.inr List.mem_cons_self)
  -- the popped entry is new to the result, or was emitted before (a root reached a second time)
  have hm : ∀ x, x ∈ omSet res e ↔ x ∈ res ∨ x = e := fun x => by
    rcases omSet_cases C.nodupH (fun r hr => I.inE r (Or.inl hr)) heE with ⟨h1, h2⟩ | ⟨_, h2⟩
    · rw [h2]; exact ⟨Or.inl, fun h => h.elim id (fun h => h ▸ h1)⟩
    · rw [h2, List.mem_append, List.mem_singleton]
  have hW : ∀ x, x ∈ omSet res e ∨ x ∈ nxtStack E lt e rest trav ↔ (x ∈ res ∨ x ∈ e :: rest) ∨ x ∈ news := fun x => by
    rw [hm, hp.mem_iff, List.mem_append, List.mem_cons]
    simp only [or_assoc, or_left_comm, or_comm]
  -- a pushed entry is a predecessor of `e` found in `E`, hence below `e`
  have hnewE : ∀ x ∈ news, x ∈ E ∧ lt e x = true := fun x hx =>
    let ⟨c, hc, hg⟩ := P.found x hx
    ⟨(get?_mem hg).1, C.mono e heE c hc x hg⟩
  have hinE : ∀ x, x ∈ omSet res e ∨ x ∈ nxtStack E lt e rest trav → x ∈ E := fun x hx =>
    ((hW x).mp hx).elim (I.inE x) (fun h => (hnewE x h).1)
  have htravOnly : ∀ h ∈ (nxt E e rest trav).2.1,
      ∃ x, (x ∈ omSet res e ∨ x ∈ nxtStack E lt e rest trav) ∧ x.hash = h := by
    intro h hh
    rw [htr0, List.mem_append, List.mem_cons] at hh
    rcases hh with h1 | rfl | h1
    · obtain ⟨x, hx, rfl⟩ := mem_hashes.mp h1
      exact ⟨x, (hW x).mpr (Or.inr hx), rfl⟩
    · exact ⟨e, (hW e).mpr (Or.inl (Or.inr List.mem_cons_self)), rfl⟩
    · obtain ⟨x, hx, hxh⟩ := I.travOnly h h1
      exact ⟨x, (hW x).mpr (Or.inl hx), hxh⟩
  constructor
  · exact {
      inE := hinE
      ord := by
        -- everything emitted is above `e` (or is `e`), everything stacked is below it (or is `e`)
        have habove : ∀ a ∈ omSet res e, lt a e = true ∨ a = e := fun a ha =>
          ((hm a).mp ha).elim (fun h => hcross a h e List.mem_cons_self) Or.inr
        have hbelow : ∀ x ∈ nxtStack E lt e rest trav, lt e x = true ∨ e = x := fun x hx =>
          (List.mem_append.mp (hp.mem_iff.mp hx)).elim (fun h => Or.inl (hnewE x h).2) ((List.pairwise_cons.mp hstk).1 x)
        refine List.pairwise_append.mpr ⟨?_, ?_, fun a ha x hx =>
          C.sto.le_trans (hinE a (Or.inl ha)) heE (hinE x (Or.inr hx)) (habove a ha) (hbelow x hx)⟩
        · exact pairwise_omSet hres fun _ a ha => hcross a ha e List.mem_cons_self
        · rcases hsort with h | h
          · rw [h]
            exact goSort_sortedW C.sto _ fun x hx => hinE x (Or.inr (hp.mem_iff.mpr hx))
          · rw [h]
            exact (List.pairwise_cons.mp hstk).2
      resNodup := entries_nodup_omSet I.resNodup
      travRes := fun a ha => htr0 ▸ List.mem_append_right _
        (((hm a).mp ha).elim (fun h => List.mem_cons_of_mem _ (I.travRes a h)) (fun h => h ▸ List.mem_cons_self))
      travSt := by
        intro s hs
        rw [htr0]
        rcases List.mem_append.mp (hp.mem_iff.mp hs) with h | h
        · exact Or.inr (List.mem_append_left _ (mem_hashes.mpr ⟨s, h, rfl⟩))
        · exact (I.travSt s (List.mem_cons_of_mem _ h)).imp_right fun ht =>
            List.mem_append_right _ (List.mem_cons_of_mem _ ht)
      travOnly := htravOnly
      closedUpTo := by
        intro a ha c hc p hg
        rcases (hm a).mp ha with h | rfl
        · exact (hW p).mpr (Or.inl (I.closedUpTo a h c hc p hg))
        · -- `p.hash` is marked now, so some entry with that hash is emitted or stacked: it is `p`
          obtain ⟨x, hx, hxh⟩ := htravOnly _ (htr0 ▸ P.covers c hc p hg)
          exact eq_of_hash_eq C.nodupH (hinE x hx) (get?_mem hg).1 hxh ▸ hx
      rootsCov := fun a ha => (hW a).mpr (Or.inl (I.rootsCov a ha)) }
  · have h1 := unmarked_append_le (hashes E) (e.hash :: trav) (hashes news) P.nodup (fun h hh => by
      obtain ⟨x, hx, rfl⟩ := mem_hashes.mp hh
      exact ⟨mem_hashes.mpr ⟨x, (hnewE x hx).1, rfl⟩, P.fresh x hx⟩)
    have h2 := unmarked_mono (hashes E) (t' := e.hash :: trav) fun _ => List.mem_cons_of_mem _
    have h3 : (hashes news).length = news.length := List.length_map _
    rw [hp.length_eq, htr0]
    simp only [List.length_append, List.length_cons]
    omega

theorem loop_specG {E : List Entry} {lt : Entry → Entry → Bool} {roots : List Entry} (C : CtxG E lt) :
    ∀ (fuel : Nat) (stack : List Entry) (trav : List Hash) (res : List Entry) (count : Int),
      GInv E lt roots stack trav res → stack.length + unmarked (hashes E) trav < fuel →
      ∃ trav', GInv E lt roots [] trav' (travLoop E lt (-1) none fuel stack trav res count)
  | 0, _, _, _, _, _, h => by omega
  | fuel + 1, [], trav, res, _, I, _ => ⟨trav, by rw [travLoop_nil]; exact I⟩
  | fuel + 1, e :: rest, trav, res, count, I, h => by
    obtain ⟨I', hlt⟩ := step_invG C I
    rw [travLoop_unb_cons]
    exact loop_specG C fuel _ _ _ _ I' (by omega)

theorem GInv.init {E : List Entry} {lt : Entry → Entry → Bool} {roots : List Entry} (C : CtxG E lt)
    (hin : ∀ r ∈ roots, r ∈ E) : GInv E lt roots (goSort lt roots) [] [] where
  inE := fun x hx => hx.elim (fun h => nomatch h) (fun h => hin x (mem_goSort.mp h))
  ord := goSort_sortedW C.sto roots hin
  resNodup := List.nodup_nil
  travRes := fun _ h => nomatch h
  travSt := fun _ hs => Or.inl (mem_goSort.mp hs)
  travOnly := fun _ h => nomatch h
  closedUpTo := fun _ h => nomatch h
  rootsCov := fun _ hr => Or.inr (mem_goSort.mpr hr)

theorem fuel_enough (E : List Entry) (lt : Entry → Entry → Bool) (roots : List Entry) :
    (goSort lt roots).length + unmarked (hashes E) [] < traverseFuel E roots := by
  have h1 : unmarked (hashes E) [] ≤ (hashes E).length := List.countP_le_length
  have h2 : (hashes E).length = E.length := List.length_map _
  rw [(goSort_perm lt roots).length_eq, traverseFuel]
  omega

/-- From arbitrary roots inside `E` (possibly referenced, possibly causally related) the unbounded traversal
    emits, strictly descending and without duplicates, exactly the entries reachable from some root. -/
theorem traverse_general {E : List Entry} {lt : Entry → Entry → Bool} {roots : List Entry} (C : CtxG E lt)
    (hin : ∀ r ∈ roots, r ∈ E) :
    let out := traverseG E lt roots (-1) none
    out.Pairwise (fun a b => lt a b = true) ∧ out.Nodup ∧ ∀ x, x ∈ out ↔ ∃ r ∈ roots, Desc E r x := by
  intro out
  obtain ⟨trav', I⟩ := loop_specG C _ _ _ _ 0 (GInv.init C hin) (fuel_enough E lt roots)
  refine ⟨I.resSorted, I.resNodup, fun x => ⟨?_, ?_⟩⟩
  · exact traverseG_closed (S := fun x => ∃ r ∈ roots, Desc E r x)
      (fun e ⟨r, hr, hd⟩ c hc p hg => ⟨r, hr, hd.step hc hg⟩) (fun y hy => ⟨y, hy, Desc.refl y (hin y hy)⟩) x
  · rintro ⟨r, hr, hd⟩
    induction hd with
    | refl _ => exact (I.rootsCov r hr).resolve_right List.not_mem_nil
    | step _ hc hg ih => exact (I.closedUpTo _ ih _ hc _ hg).resolve_right List.not_mem_nil

theorem traverse_spec {E : List Entry} {lt : Entry → Entry → Bool} {roots : List Entry} (C : Ctx E lt roots)
    (hrn : roots.Nodup) :
    let out := traverse E lt roots
    out.Pairwise (fun a b => lt a b = true) ∧ out.Nodup ∧ (∀ x ∈ out, x ∈ E) ∧ (∀ r ∈ roots, r ∈ out) ∧
    (∀ x ∈ out, ∀ c ∈ x.next, ∀ p, get? E c = some p → p ∈ out) := by
  obtain ⟨h1, h2, h3⟩ := traverse_general C.toG C.rootsIn
  refine ⟨h1, h2, traverseG_subset C.rootsIn, fun r hr => (h3 r).mpr ⟨r, hr, Desc.refl r (C.rootsIn r hr)⟩,
    fun x hx c hc p hg => ?_⟩
  obtain ⟨r, hr, hd⟩ := (h3 x).mp hx
  exact (h3 p).mpr ⟨r, hr, hd.step hc hg⟩

/-! ## when nothing is stacked twice: the strict invariant `LInv` -/

/-- no root is a strict descendant of a root (in particular of itself) -/
def RootsIndep (E roots : List Entry) : Prop :=
  ∀ r ∈ roots, ∀ b c p, Desc E r b → c ∈ b.next → get? E c = some p → p ∉ roots

/-- `GInv` with a duplicate-free stack disjoint from the result: all orderings are strict and every pop emits -/
structure LInv (E : List Entry) (lt : Entry → Entry → Bool) (roots : List Entry)
    (stack : List Entry) (trav : List Hash) (res : List Entry) : Prop where
  stIn : ∀ s ∈ stack, s ∈ E
  resIn : ∀ r ∈ res, r ∈ E
  stSorted : stack.Pairwise (fun a b => lt a b = true)
  resSorted : res.Pairwise (fun a b => lt a b = true)
  resAbove : ∀ r ∈ res, ∀ s ∈ stack, lt r s = true
  travRes : ∀ r ∈ res, r.hash ∈ trav
  travSt : ∀ s ∈ stack, s ∈ roots ∨ s.hash ∈ trav
  travOnly : ∀ h ∈ trav, ∃ x, (x ∈ res ∨ x ∈ stack) ∧ x.hash = h
  stNodup : stack.Nodup
  resNodup : res.Nodup
  disj : ∀ r ∈ res, r ∉ stack
  closedUpTo : ∀ r ∈ res, ∀ c ∈ r.next, ∀ p, get? E c = some p → p ∈ res ∨ p ∈ stack
  rootsCov : ∀ r ∈ roots, r ∈ res ∨ r ∈ stack

theorem LInv.toG {E : List Entry} {lt : Entry → Entry → Bool} {roots stack : List Entry} {trav : List Hash}
    {res : List Entry} (I : LInv E lt roots stack trav res) : GInv E lt roots stack trav res :=
  { inE := fun x hx => hx.elim (I.resIn x) (I.stIn x)
    ord := List.pairwise_append.mpr ⟨I.resSorted.imp Or.inl, I.stSorted.imp Or.inl,
      fun r hr s hs => Or.inl (I.resAbove r hr s hs)⟩
    resNodup := I.resNodup, travRes := I.travRes, travSt := I.travSt, travOnly := I.travOnly,
    closedUpTo := I.closedUpTo, rootsCov := I.rootsCov }

theorem GInv.toL {E : List Entry} {lt : Entry → Entry → Bool} {roots stack : List Entry} {trav : List Hash}
    {res : List Entry} (G : GInv E lt roots stack trav res) (hnd : (res ++ stack).Nodup) :
    LInv E lt roots stack trav res := by
  obtain ⟨hr, hs, hrs⟩ := List.pairwise_append.mp ((G.ord.and hnd).imp fun h => h.1.resolve_right h.2)
  obtain ⟨nr, ns, nrs⟩ := List.nodup_append.mp hnd
  exact {
    stIn := fun s hs => G.inE s (Or.inr hs)
    resIn := fun r hr => G.inE r (Or.inl hr)
    stSorted := hs
    resSorted := hr
    resAbove := hrs
    travRes := G.travRes
    travSt := G.travSt
    travOnly := G.travOnly
    stNodup := ns
    resNodup := nr
    disj := fun r hr hs => nrs r hr r hs rfl
    closedUpTo := G.closedUpTo
    rootsCov := G.rootsCov }

theorem step_invL {E : List Entry} {lt : Entry → Entry → Bool} {roots : List Entry} (C : CtxG E lt)
    {e : Entry} {rest : List Entry} {trav : List Hash} {res : List Entry}
    (hind : ∀ c ∈ e.next, ∀ p, get? E c = some p → p ∉ roots)
    (I : LInv E lt roots (e :: rest) trav res) :
    e ∉ res ∧ omSet res e = res ++ [e] ∧
      LInv E lt roots (nxtStack E lt e rest trav) (nxt E e rest trav).2.1 (res ++ [e]) := by
  have hene : e ∉ res := fun hm => I.disj e hm List.mem_cons_self
  have hset : omSet res e = res ++ [e] :=
    ((omSet_cases C.nodupH I.resIn (I.stIn e List.mem_cons_self)).resolve_left (fun h => hene h.1)).2
  obtain ⟨news, P, -, hp, -⟩ := nxt_spec E lt e rest trav
  refine ⟨hene, hset, (hset ▸ (step_invG C I.toG).1).toL ?_⟩
  rw [(hp.append_left _).nodup_iff, (List.perm_append_comm_assoc _ _ _).nodup_iff, List.append_assoc,
    List.nodup_append]
  refine ⟨nodup_of_hashes_nodup P.nodup,
    List.nodup_append.mpr ⟨I.resNodup, I.stNodup, fun a ha b hb hab => I.disj a ha (hab ▸ hb)⟩,
    fun a ha b hb hab => ?_⟩
  -- a pushed entry is unmarked and a predecessor of `e`; an emitted or stacked one is marked or a root
  obtain ⟨c, hc, hg⟩ := P.found a ha
  rcases List.mem_append.mp hb with h | h
  · exact P.fresh a ha (hab ▸ List.mem_cons_of_mem _ (I.travRes b h))
  · rcases I.travSt b h with h | h
    · exact hind c hc a hg (hab ▸ h)
    · exact P.fresh a ha (hab ▸ List.mem_cons_of_mem _ h)

/-- while every pop emits, `count` is the length of the result, so the amount cuts the result at that length -/
theorem travLoop_take {E : List Entry} {lt : Entry → Entry → Bool} {roots : List Entry} (C : CtxG E lt)
    (hind : RootsIndep E roots) (n : Nat) :
    ∀ (fuel : Nat) (stack : List Entry) (trav : List Hash) (res : List Entry) (count : Int),
      LInv E lt roots stack trav res → (∀ x ∈ stack, ∃ r ∈ roots, Desc E r x) → count = res.length →
      res.length ≤ n →
      travLoop E lt n none fuel stack trav res count = (travLoop E lt (-1) none fuel stack trav res count).take n
  | 0, _, _, res, _, _, _, _, hle => (List.take_of_length_le hle).symm
  | _ + 1, [], _, res, _, _, _, _, hle => by
    rw [travLoop_nil, travLoop_nil, List.take_of_length_le hle]
  | fuel + 1, e :: rest, trav, res, count, I, hD, hc, hle => by
    obtain ⟨r, hr, hd⟩ := hD e List.mem_cons_self
    obtain ⟨_, hset, I'⟩ := step_invL C (fun c hc p hg => hind r hr e c p hd hc hg) I
    rw [travLoop_unb_cons, travLoop_cons, hset]
    by_cases hlt : res.length < n
    · rw [if_pos (Or.inr (by omega)), if_neg nofun]
      refine travLoop_take C hind n fuel _ _ _ _ I' (fun x hx => ?_) (by simp [hc]) (List.length_append ▸ hlt)
      rcases mem_nxtStack_cases hx with h | ⟨c, hc, hg⟩
      · exact hD x (List.mem_cons_of_mem _ h)
      · exact ⟨r, hr, hd.step hc hg⟩
    · obtain ⟨t, ht⟩ := travLoop_extends E lt (-1) none fuel (nxtStack E lt e rest trav)
          (nxt E e rest trav).2.1 (res ++ [e]) (count + 1)
      have hlen : res.length = n := by omega
      rw [if_neg (by omega), ← ht, List.append_assoc, ← hlen, List.take_left]

theorem traverse_amount_take {E : List Entry} {lt : Entry → Entry → Bool} {roots : List Entry} (C : CtxG E lt)
    (hin : ∀ r ∈ roots, r ∈ E) (hrn : roots.Nodup) (hind : RootsIndep E roots) (a : Int) (ha : 0 ≤ a) :
    traverseG E lt roots a none = (traverseG E lt roots (-1) none).take a.toNat := by
  obtain ⟨n, rfl⟩ := Int.eq_ofNat_of_zero_le ha
  exact travLoop_take C hind n _ _ _ _ 0 ((GInv.init C hin).toL ((goSort_perm lt roots).nodup_iff.mpr hrn))
    (fun x hx => ⟨x, mem_goSort.mp hx, Desc.refl x (hin x (mem_goSort.mp hx))⟩) rfl (Nat.zero_le _)

/-! ## from roots that nothing names every pop emits, so `|E|` pops suffice (`loop_spec`; nothing else uses it) -/

def unemitted : List Entry → List Entry → Nat
  | [], _ => 0
  | x :: xs, res => (if x ∈ res then 0 else 1) + unemitted xs res

theorem unemitted_eq_countP (res : List Entry) : ∀ (l : List Entry), unemitted l res = l.countP (fun x => decide (x ∉ res))
  | [] => rfl
  | x :: xs => by
    rw [unemitted, unemitted_eq_countP res xs, List.countP_cons]
    by_cases h : x ∈ res <;> simp [h, Nat.add_comm]

theorem unemitted_lt {res : List Entry} {e : Entry} (hne : e ∉ res) {E : List Entry} (he : e ∈ E) :
    unemitted E (res ++ [e]) < unemitted E res := by
  rw [unemitted_eq_countP, unemitted_eq_countP]
  exact countP_lt_countP (fun x _ h => by simp at h ⊢; exact h.1) he (by simpa using hne) (by simp)

theorem loop_spec {E : List Entry} {lt : Entry → Entry → Bool} {roots : List Entry} (C : Ctx E lt roots) :
    ∀ (fuel : Nat) (stack : List Entry) (trav : List Hash) (res : List Entry) (count : Int),
      LInv E lt roots stack trav res → unemitted E res < fuel →
      ∃ trav', LInv E lt roots [] trav' (travLoop E lt (-1) none fuel stack trav res count)
  | 0, _, _, _, _, _, h => by omega
  | fuel + 1, [], trav, res, _, I, _ => ⟨trav, by rw [travLoop_nil]; exact I⟩
  | fuel + 1, e :: rest, trav, res, count, I, h => by
    have heE : e ∈ E := I.stIn e List.mem_cons_self
    obtain ⟨hene, hset, I'⟩ := step_invL C.toG (C.rootsUnref e heE) I
    have hlt := unemitted_lt hene heE
    rw [travLoop_unb_cons, hset]
    exact loop_spec C fuel _ _ _ _ I' (by omega)

/-- the effect of the inner loop on a state `s`, clause by clause, with a duplicate-free stack; `e` is the
    entry whose `next` is processed, `roots` is not used.  No proof uses `PInv` or `PInvG`: the proofs above
    go through the closed form `pushNexts_eq`. -/
structure PInv (E : List Entry) (roots : List Entry) (e : Entry) (stack0 : List Entry) (trav0 : List Hash)
    (s : List Entry × List Hash × Bool) : Prop where
  newSucc : ∀ x ∈ s.1, x ∈ stack0 ∨ (∃ c ∈ e.next, get? E c = some x)
  keepSt : ∀ x ∈ stack0, x ∈ s.1
  keepTr : ∀ h ∈ trav0, h ∈ s.2.1
  trOnly : ∀ h ∈ s.2.1, h ∈ trav0 ∨ ∃ x ∈ s.1, x.hash = h
  nodup : s.1.Nodup
  marked : ∀ x ∈ s.1, x ∈ stack0 ∨ x.hash ∈ s.2.1
  fresh : ∀ x ∈ s.1, x ∈ stack0 ∨ x.hash ∉ trav0
  unmod : s.2.2 = false → s.1 = stack0

/-- the same without the clause on duplicates -/
structure PInvG (E : List Entry) (e : Entry) (stack0 : List Entry) (trav0 : List Hash)
    (s : List Entry × List Hash × Bool) : Prop where
  newSucc : ∀ x ∈ s.1, x ∈ stack0 ∨ (∃ c ∈ e.next, get? E c = some x)
  keepSt : ∀ x ∈ stack0, x ∈ s.1
  keepTr : ∀ h ∈ trav0, h ∈ s.2.1
  trOnly : ∀ h ∈ s.2.1, h ∈ trav0 ∨ ∃ x ∈ s.1, x.hash = h
  marked : ∀ x ∈ s.1, x ∈ stack0 ∨ x.hash ∈ s.2.1
  fresh : ∀ x ∈ s.1, x ∈ stack0 ∨ x.hash ∉ trav0
  unmod : s.2.2 = false → s.1 = stack0

end Model
