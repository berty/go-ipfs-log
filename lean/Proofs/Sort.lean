import Model.Sorting
/-!
# Proofs.Sort — Go's insertion sort is a permutation, and sorts under an order that is total and
transitive on the distinct members of a duplicate-free list (`STO`).  No irreflexivity is asked:
the default comparator answers 1 for `(a, a)`, so duplicate-freedom is carried separately.  Under an
order that is also asymmetric the result depends only on the set of members (`goSort_perm_invariant`).
-/
namespace Model

variable {α : Type}

theorem insRev_perm (lt : α → α → Bool) (x : α) : ∀ l, (insRev lt x l).Perm (x :: l)
  | [] => List.Perm.refl _
  | y :: ys => by
    unfold insRev
    split
    · exact ((insRev_perm lt x ys).cons y).trans (List.Perm.swap x y ys)
    · exact List.Perm.refl _

theorem isortRev_perm (lt : α → α → Bool) : ∀ (l acc : List α), (isortRev lt acc l).Perm (l.reverse ++ acc)
  | [], acc => by simp [isortRev]
  | x :: xs, acc => by
    rw [isortRev, List.reverse_cons, List.append_assoc]
    exact (isortRev_perm lt xs (insRev lt x acc)).trans (List.Perm.append_left _ (insRev_perm lt x acc))

theorem goSort_perm (lt : α → α → Bool) (l : List α) : (goSort lt l).Perm l := by
  have := isortRev_perm lt l []
  rw [List.append_nil] at this
  exact (List.reverse_perm _).trans (this.trans (List.reverse_perm l))

theorem mem_goSort {lt : α → α → Bool} {l : List α} {a : α} : a ∈ goSort lt l ↔ a ∈ l :=
  (goSort_perm lt l).mem_iff

/-- total, transitive order on *distinct* members of `S` -/
structure STO (lt : α → α → Bool) (S : α → Prop) : Prop where
  trans : ∀ a b c, S a → S b → S c → lt a b = true → lt b c = true → lt a c = true
  total : ∀ a b, S a → S b → a ≠ b → lt a b = true ∨ lt b a = true

theorem STO.le_trans {lt : α → α → Bool} {S : α → Prop} (h : STO lt S) {a b c : α} (ha : S a) (hb : S b) (hc : S c)
    (h1 : lt a b = true ∨ a = b) (h2 : lt b c = true ∨ b = c) : lt a c = true ∨ a = c := by
  rcases h1 with h1 | rfl
  · rcases h2 with h2 | rfl
    · exact Or.inl (h.trans a b c ha hb hc h1 h2)
    · exact Or.inl h1
  · exact h2

theorem insRev_sortedW {lt : α → α → Bool} {S : α → Prop} (h : STO lt S) (x : α) (hx : S x) :
    ∀ (l : List α), (∀ a ∈ l, S a) → l.Pairwise (fun a b => lt b a = true ∨ b = a) →
      (insRev lt x l).Pairwise (fun a b => lt b a = true ∨ b = a)
  | [], _, _ => by simp [insRev]
  | y :: ys, hS, hp => by
    have hy : S y := hS y List.mem_cons_self
    unfold insRev
    split
    · rename_i hlt
      refine List.Pairwise.cons (fun a ha => ?_)
        (insRev_sortedW h x hx ys (fun a ha => hS a (List.mem_cons_of_mem _ ha)) (List.Pairwise.of_cons hp))
      rcases List.mem_cons.mp ((insRev_perm lt x ys).mem_iff.mp ha) with rfl | hm
      · exact Or.inl hlt
      · exact (List.pairwise_cons.mp hp).1 a hm
    · rename_i hlt
      -- `x` stops here: it is not before `y`, so by totality `y` is before it (or is it)
      have hyx : lt y x = true ∨ y = x := Classical.byCases (fun e : x = y => Or.inr e.symm)
        (fun hxy => Or.inl ((h.total x y hx hy hxy).resolve_left hlt))
      refine List.Pairwise.cons (fun a ha => ?_) hp
      rcases List.mem_cons.mp ha with rfl | hm
      · exact hyx
      · exact h.le_trans (hS a (List.mem_cons_of_mem _ hm)) hy hx ((List.pairwise_cons.mp hp).1 a hm) hyx

theorem isortRev_sortedW {lt : α → α → Bool} {S : α → Prop} (h : STO lt S) :
    ∀ (l acc : List α), (∀ a ∈ l, S a) → (∀ a ∈ acc, S a) →
      acc.Pairwise (fun a b => lt b a = true ∨ b = a) →
      (isortRev lt acc l).Pairwise (fun a b => lt b a = true ∨ b = a)
  | [], acc, _, _, hp => hp
  | x :: xs, acc, hl, hacc, hp => by
    have hx : S x := hl x List.mem_cons_self
    refine isortRev_sortedW h xs (insRev lt x acc) (fun a ha => hl a (List.mem_cons_of_mem _ ha)) (fun a ha => ?_)
      (insRev_sortedW h x hx acc hacc hp)
    rcases List.mem_cons.mp ((insRev_perm lt x acc).mem_iff.mp ha) with rfl | hm
    · exact hx
    · exact hacc a hm

theorem goSort_sortedW {lt : α → α → Bool} {S : α → Prop} (h : STO lt S) (l : List α)
    (hS : ∀ a ∈ l, S a) : (goSort lt l).Pairwise (fun a b => lt a b = true ∨ a = b) := by
  unfold goSort
  rw [List.pairwise_reverse]
  exact isortRev_sortedW h l [] hS (fun _ ha => nomatch ha) List.Pairwise.nil

theorem goSort_sorted {lt : α → α → Bool} {S : α → Prop} (h : STO lt S) (l : List α)
    (hS : ∀ a ∈ l, S a) (hnd : l.Nodup) : (goSort lt l).Pairwise (fun a b => lt a b = true) :=
  ((goSort_sortedW h l hS).and ((goSort_perm lt l).nodup_iff.mpr hnd)).imp (fun h => h.1.resolve_right h.2)

theorem sorted_perm_eq {lt : α → α → Bool} {S : α → Prop}
    (hasym : ∀ a b, S a → S b → a ≠ b → lt a b = true → lt b a = false) {l₁ l₂ : List α}
    (h1 : l₁.Pairwise (fun a b => lt a b = true)) (h2 : l₂.Pairwise (fun a b => lt a b = true))
    (hp : l₁.Perm l₂) (hS : ∀ a ∈ l₁, S a) : l₁ = l₂ :=
  hp.eq_of_pairwise (fun a b ha hb hab hba => Classical.byContradiction fun hne => by
    rw [hasym a b (hS a ha) (hS b (hp.mem_iff.mpr hb)) hne hab] at hba
    cases hba) h1 h2

theorem goSort_perm_invariant {lt : Entry → Entry → Bool} {l₁ l₂ : List Entry} {S : Entry → Prop}
    (h : STO lt S) (hasym : ∀ a b, S a → S b → a ≠ b → lt a b = true → lt b a = false)
    (hS : ∀ a ∈ l₁, S a) (hnd : l₁.Nodup) (hp : l₁.Perm l₂) : goSort lt l₁ = goSort lt l₂ :=
  sorted_perm_eq hasym (goSort_sorted h l₁ hS hnd)
    (goSort_sorted h l₂ (fun a ha => hS a (hp.mem_iff.mpr ha)) (hp.nodup_iff.mp hnd))
    ((goSort_perm lt l₁).trans (hp.trans (goSort_perm lt l₂).symm)) (fun a ha => hS a (mem_goSort.mp ha))

end Model
