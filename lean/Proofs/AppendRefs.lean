import Proofs.Append
/-!
# Proofs.AppendRefs — the skip references chosen by `Append` (C04)

They are entries of the log other than the predecessors, without duplicates (`appendPlan_refs`), and there
are at most `⌊log₂ (max pc 1)⌋ + 1` of them (`appendPlan_refs_length`): `getEveryPow2` doubles its distance with
every pick, and the "last known reference" that is added when fewer than `pc` entries were traversed is paid
for by the first pick, which is the first traversed entry — a head, hence filtered out as a predecessor.
-/
namespace Model

theorem everyPow2_subset (all : List Entry) (m : Int) (fuel : Nat) (i : Int) : ∀ x ∈ everyPow2 all m fuel i, x ∈ all := by
  fun_induction everyPow2 all m fuel i with
  | case1 | case4 => exact fun _ hx => nomatch hx
  | case2 _ _ _ _ _ hg ih => exact fun x hx => (List.mem_cons.mp hx).elim (fun h => h ▸ List.mem_of_getElem? hg) (ih x)
  | case3 _ _ _ _ _ ih => exact ih

/-- `getEveryPow2` plus "always include the last known reference", from the traversed entries `all` -/
def refCandidates (all : List Entry) (pcv : Int) : List Entry :=
  let refs0 := everyPow2 all (min pcv all.length) (all.length + 2) 1
  if (all.length : Int) < pcv then
    (match all.getLast? with | some r => refs0 ++ [r] | none => refs0) else refs0

theorem refCandidates_subset (all : List Entry) (pcv : Int) : ∀ x ∈ refCandidates all pcv, x ∈ all := by
  fun_cases refCandidates all pcv with
  | case1 _ _ r hl =>
    exact fun x hx => (List.mem_append.mp hx).elim (everyPow2_subset _ _ _ _ x) fun h =>
      List.mem_singleton.mp h ▸ List.mem_of_getLast? hl
  | case2 | case3 => exact everyPow2_subset _ _ _ _

theorem appendPlan_refs_eq (l : Log) (pc : Int) :
    (appendPlan l pc).refs =
      dedupHashes (((refCandidates
        (traverseG l.entries (before l.sortFn) (sortedHeads l)
          (max (if pc ≠ 0 then pc else 1) (sortedHeads l).length) none)
        (if pc ≠ 0 then pc else 1)).map (·.hash)).filter
          (fun r => !((sortedHeads l).map (·.hash)).reverse.contains r)) [] := rfl

theorem appendPlan_refs {U : List Entry} {l : Log} (I : Inv U l) (pc : Int) :
    (∀ r ∈ (appendPlan l pc).refs, r ∈ hashes l.entries ∧ r ∉ (appendPlan l pc).next) ∧
    ((appendPlan l pc).refs).Nodup := by
  rw [appendPlan_refs_eq]
  refine ⟨?_, dedupHashes_nodup _ [] List.nodup_nil⟩
  intro r hr
  rw [mem_dedupHashes] at hr
  simp only [List.not_mem_nil, false_or, List.mem_filter, List.mem_map] at hr
  obtain ⟨⟨x, hx, hxr⟩, hnot⟩ := hr
  have hxE : x ∈ l.entries :=
    traverseG_subset (fun y hy => I.headsIn y ((mem_sortedHeads I.headsNodup).mp hy)) x (refCandidates_subset _ _ x hx)
  refine ⟨List.mem_map.mpr ⟨x, hxE, hxr⟩, ?_⟩
  rw [appendPlan_next_eq l pc]
  simpa [hashes] using hnot

/-- a pick at distance `i` needs `i ≤ m` and the loop goes on at `2 * i`, so `k ≥ 1` picks need
    `i * 2 ^ (k - 1) ≤ m`; `max i` covers `k = 0` -/
theorem everyPow2_length (all : List Entry) (m : Int) (fuel : Nat) (i : Int) (hi : 1 ≤ i) :
    i * 2 ^ (everyPow2 all m fuel i).length ≤ max i (2 * m) := by
  fun_induction everyPow2 all m fuel i with
  | case1 | case4 =>
    simp only [List.length_nil, Int.pow_zero]
    omega
  | case2 fuel i _ _ _ _ ih =>
    have := Int.mul_right_comm .. ▸ ih (by omega)
    rw [List.length_cons, Int.pow_succ, ← Int.mul_assoc]
    omega
  | case3 fuel i _ _ _ ih =>
    have := Int.mul_right_comm .. ▸ ih (by omega)
    have hnn : 0 ≤ i * 2 ^ (everyPow2 all m fuel (i * 2)).length := Int.mul_nonneg (by omega) (Int.pow_nonneg (by omega))
    omega

theorem everyPow2_length_le (all : List Entry) {m n : Int} (hmn : m ≤ n) (fuel : Nat) :
    (everyPow2 all m fuel 1).length ≤ Nat.log2 (max n 1).toNat + 1 := by
  have h := everyPow2_length all m fuel 1 (Int.le_refl 1)
  cases hl : (everyPow2 all m fuel 1).length with
  | zero => omega
  | succ k =>
    rw [hl, Int.one_mul, Int.pow_succ] at h
    have h2 : ((2 ^ k : Nat) : Int) = 2 ^ k := by simp
    exact Nat.succ_le_succ ((Nat.le_log2 (by omega)).mpr (by omega))

theorem everyPow2_head (e0 : Entry) (t : List Entry) {m : Int} (hm : 1 ≤ m) (fuel : Nat) :
    ∃ r, everyPow2 (e0 :: t) m (fuel + 1) 1 = e0 :: r := by
  have hidx : (min (((e0 :: t).length : Int) - 1) (1 - 1)).toNat = 0 := by
    simp only [List.length_cons]; omega
  rw [everyPow2, if_pos hm]
  simp only [hidx, List.getElem?_cons_zero]
  exact ⟨_, rfl⟩

theorem refCandidates_filter_length (all : List Entry) (pcv : Int) (p : Entry → Bool)
    (hp : ∀ e0 ∈ all.head?, p e0 = false) :
    ((refCandidates all pcv).filter p).length ≤ Nat.log2 (max pcv 1).toNat + 1 := by
  have hpicks := everyPow2_length_le all (Int.min_le_left pcv all.length) (all.length + 2)
  have hle := fun l : List Entry => List.length_filter_le p l
  fun_cases refCandidates all pcv with
  | case2 | case3 => exact Nat.le_trans (hle _) hpicks
  | case1 refs0 hlen r hl =>
    -- fewer traversed entries than asked for: the last one is added, and the first pick is rejected
    cases all with
    | nil => cases hl
    | cons e0 t =>
      obtain ⟨picks, hr⟩ := everyPow2_head e0 t (m := min pcv ((e0 :: t).length : Int))
        (by simp only [List.length_cons] at hlen ⊢; omega) ((e0 :: t).length + 1)
      have := hle (picks ++ [r])
      rw [hr] at hpicks
      rw [show refs0 = e0 :: picks from hr, List.cons_append, List.filter_cons_of_neg (by simp [hp e0 rfl])]
      simp only [List.length_append, List.length_cons, List.length_nil] at hpicks this
      omega

theorem appendPlan_refs_length (l : Log) (pc : Int) :
    (appendPlan l pc).refs.length ≤ Nat.log2 (max pc 1).toNat + 1 := by
  have hmax : (max (if pc ≠ 0 then pc else 1) 1).toNat = (max pc 1).toNat := by split <;> omega
  rw [appendPlan_refs_eq, ← hmax]
  refine Nat.le_trans (dedupHashes_length_le _) ?_
  rw [List.filter_map, List.length_map]
  -- the first traversed entry is a head, and the heads are the predecessors
  refine refCandidates_filter_length _ _ _ fun e0 he0 => ?_
  obtain ⟨t, ht⟩ := List.head?_eq_some_iff.mp he0
  simpa using ⟨e0, traverseG_head ht, rfl⟩

end Model
