import Model.Keystore
/-!
# Proofs.Keystore — invariants of keystores sharing one datastore

Every operation is `GetKey` and `CreateKey` composed, and `GetKey` changes the state by one `cache.Add` of the value it
returns (`getKey_snd`): a property of states kept by such an `Add`, by `CreateKey` on a free datastore key and by
emptying a cache is kept by every well-formed step (`step_preserves`).  Two instances: the LRU shape `Cache.Ok`, and
`Inv env s` (every cached pair and every pair in the creation log is what the datastore holds now; everything the
datastore holds was logged by `CreateKey`), which determines the answers of `HasKey` / `GetKey` in every keystore.
-/
namespace Model.Keys

theorem assoc_mem {l : List (Id × Key)} {k : Id} {v : Key} (h : assoc l k = some v) : (k, v) ∈ l := by
  induction l with
  | nil => cases h
  | cons p t ih =>
    rw [assoc] at h
    split at h
    · cases h
      exact ‹p.1 = k› ▸ List.mem_cons_self
    · exact List.mem_cons_of_mem _ (ih h)

theorem assoc_eq_none {l : List (Id × Key)} {k : Id} (h : ∀ v, (k, v) ∉ l) : assoc l k = none := by
  cases hh : assoc l k with
  | none => rfl
  | some v => exact absurd (assoc_mem hh) (h v)

theorem assoc_none_iff {l : List (Id × Key)} {k : Id} : assoc l k = none ↔ k ∉ l.map (·.1) := by
  induction l with
  | nil => exact ⟨fun _ => List.not_mem_nil, fun _ => rfl⟩
  | cons p t ih =>
    rw [assoc, List.map_cons, List.mem_cons, not_or, ← ih]
    split
    · exact ⟨nofun, fun h => absurd ‹p.1 = k›.symm h.1⟩
    · exact ⟨fun h => ⟨fun e => ‹¬p.1 = k› e.symm, h⟩, fun h => h.2⟩

theorem Store.get_nil (k : Id) : Store.get [] k = none := rfl

theorem Store.get_put (s : Store) (k k' : Id) (v : Key) :
    (s.put k v).get k' = if k = k' then some v else s.get k' := by
  simp only [Store.put, Store.get, assoc]

theorem Cache.remove_sublist (c : Cache) (id : Id) : List.Sublist (c.remove id) c := List.filter_sublist

theorem Cache.not_mem_remove (c : Cache) (id : Id) : id ∉ (c.remove id).map (·.1) := by
  simp only [Cache.remove, List.mem_map, List.mem_filter, not_exists, not_and]
  intro p hp he
  simp [he] at hp

theorem Cache.remove_length_lt {c : Cache} {id : Id} {v : Key} (h : (id, v) ∈ c) :
    (c.remove id).length < c.length :=
  List.length_filter_lt_length_iff_exists.mpr ⟨(id, v), h, by simp⟩

theorem Cache.mem_add {cap : Nat} {c : Cache} {id : Id} {v : Key} {p : Id × Key}
    (h : p ∈ Cache.add cap c id v) : p = (id, v) ∨ p ∈ c := by
  unfold Cache.add at h
  split at h
  · exact (List.mem_cons.mp h).imp_right fun hp => (Cache.remove_sublist c id).subset hp
  · split at h
    · exact List.mem_cons.mp (List.dropLast_subset _ h)
    · exact List.mem_cons.mp h

theorem Cache.get_eq (cap : Nat) (c : Cache) (id : Id) :
    c.get id = (assoc c id, match assoc c id with | some v => c.add cap id v | none => c) := by
  unfold Cache.get Cache.add
  cases assoc c id <;> rfl

theorem getKey_fst (env : Env) (s : State) (i : Nat) (id : Id) :
    (getKey env s i id).1 = (assoc (s.caches i) id).or (s.store.get (env.norm id)) := by
  unfold getKey
  rw [Cache.get_eq env.cap]
  cases assoc (s.caches i) id with
  | some v => rfl
  | none => cases s.store.get (env.norm id) <;> rfl

theorem getKey_snd (env : Env) (s : State) (i : Nat) (id : Id) :
    (getKey env s i id).2 = match (getKey env s i id).1 with
      | some v => s.setCache i ((s.caches i).add env.cap id v)
      | none => s := by
  unfold getKey
  rw [Cache.get_eq env.cap]
  cases assoc (s.caches i) id with
  | some v => rfl
  | none => cases s.store.get (env.norm id) <;> rfl

theorem getKey_none {env : Env} {s : State} {i : Nat} {id : Id} (h : (getKey env s i id).1 = none) :
    s.store.get (env.norm id) = none := by
  rw [getKey_fst, Option.or_eq_none_iff] at h
  exact h.2

theorem hasKey_eq (env : Env) (s : State) (i : Nat) (id : Id) :
    hasKey env s i id = (if (getKey env s i id).1.isSome then .yes else .err,
      if (assoc (s.caches i) id).isSome then s else (getKey env s i id).2) := by
  unfold hasKey getKey Cache.peek
  rw [Cache.get_eq env.cap]
  cases assoc (s.caches i) id with
  | some v => rfl
  | none => cases s.store.get (env.norm id) <;> rfl

theorem getOrCreate_eq (env : Env) (s : State) (i : Nat) (id : Id) (k : Key) :
    getOrCreate env s i id k = match (getKey env s i id).1 with
      | some v => (v, (getKey env s i id).2)
      | none => (k, createKey env s i id k) := by
  -- a failed `GetKey` leaves the state as it was
  have h2 := getKey_snd env s i id
  unfold getOrCreate
  generalize getKey env s i id = r at h2
  obtain ⟨o, s'⟩ := r
  cases o
  · cases h2; rfl
  · rfl

theorem signEntry_eq (env : Env) (C : Crypto) (s : State) (i : Nat) (id : Id) (d : Bytes) :
    signEntry env C s i id d = ((getKey env s i id).1.map (C.sign · d), (getKey env s i id).2) := by
  unfold signEntry
  generalize getKey env s i id = r
  obtain ⟨o, s'⟩ := r
  cases o <;> rfl

theorem createIdentity_eq (env : Env) (C : Crypto) (s : State) (i : Nat) (uid : Id) (k1 k2 : Key) :
    createIdentity env C s i uid k1 k2 =
      let r1 := getOrCreate env s i uid k1
      let r2 := getOrCreate env r1.2 i (hexEnc (C.pubC r1.1)) k2
      let r3 := getKey env r2.2 i uid
      (r3.1.map fun ku => { mkIdentity C r1.1 r2.1 with
          sigPub := C.sign ku (hexEnc (C.pubU r2.1 ++ C.sign r2.1 (hexEnc (C.pubC r1.1)))) }, r3.2) := by
  unfold createIdentity
  simp only []
  generalize getOrCreate env s i uid k1 = r1
  obtain ⟨ku, s1⟩ := r1
  generalize getOrCreate env s1 i (hexEnc (C.pubC ku)) k2 = r2
  obtain ⟨ki, s2⟩ := r2
  generalize getKey env s2 i uid = r3
  obtain ⟨o, s3⟩ := r3
  cases o <;> rfl

theorem step_preserves {P : State → Prop} {env : Env}
    (add : ∀ s i id v, P s → (getKey env s i id).1 = some v → P (s.setCache i ((s.caches i).add env.cap id v)))
    (create : ∀ s i id k, P s → s.store.get (env.norm id) = none → P (createKey env s i id k))
    (clear : ∀ s i, P s → P (s.setCache i []))
    (C : Crypto) {s : State} (hs : P s) (op : Op) (hw : wfStep env s op = true) : P (step env C s op).2 := by
  have get : ∀ s i id, P s → P (getKey env s i id).2 := by
    intro s i id hs
    rw [getKey_snd]
    split
    · exact add s i id _ hs ‹_›
    · exact hs
  have goc : ∀ s i id k, P s → P (getOrCreate env s i id k).2 := by
    intro s i id k hs
    rw [getOrCreate_eq]
    split
    · exact get s i id hs
    · exact create s i id k hs (getKey_none ‹_›)
  cases op with
  | create i id k => exact create s i id k hs (Option.isNone_iff_eq_none.mp hw)
  | get i id => exact get s i id hs
  | has i id =>
    simp only [step, hasKey_eq]
    split
    · exact hs
    · exact get s i id hs
  | getOrCreate i id k => exact goc s i id k hs
  | createIdentity i uid k1 k2 =>
    simp only [step, createIdentity_eq]
    exact get _ i uid (goc _ i _ k2 (goc s i uid k1 hs))
  | signEntry i id d => simp only [step, signEntry_eq]; exact get s i id hs
  | restart i => exact clear s i hs

structure Inv (env : Env) (s : State) : Prop where
  cache : ∀ i id k, (id, k) ∈ s.caches i → s.store.get (env.norm id) = some k
  created : ∀ id k, (id, k) ∈ s.created → s.store.get (env.norm id) = some k
  stored : ∀ key k, s.store.get key = some k → ∃ id, (id, k) ∈ s.created ∧ env.norm id = key

theorem inv_init (env : Env) : Inv env State.init :=
  ⟨fun _ _ _ h => (nomatch h), fun _ _ h => (nomatch h), fun _ _ h => (nomatch h)⟩

def SameData (s s' : State) : Prop := s'.store = s.store ∧ s'.created = s.created

theorem SameData.refl (s : State) : SameData s s := ⟨rfl, rfl⟩

theorem store_mono {env : Env} {s s' : State} (h : Inv env s) (h' : Inv env s')
    (sub : ∀ p, p ∈ s.created → p ∈ s'.created) {key : Id} {k : Key}
    (hk : s.store.get key = some k) : s'.store.get key = some k := by
  obtain ⟨id, hm, hn⟩ := h.stored key k hk
  rw [← hn]; exact h'.created id k (sub _ hm)

theorem getKey_spec {env : Env} {s : State} (h : Inv env s) (i : Nat) (id : Id) :
    (getKey env s i id).1 = s.store.get (env.norm id) := by
  rw [getKey_fst]
  cases hc : assoc (s.caches i) id with
  | none => rfl
  | some v => exact (h.cache i id v (assoc_mem hc)).symm

theorem has_get_spec {env : Env} {s : State} (h : Inv env s) (j : Nat) {id : Id} {o : Option Key}
    (ho : s.store.get (env.norm id) = o) :
    (hasKey env s j id).1 = (if o.isSome then .yes else .err) ∧ (getKey env s j id).1 = o := by
  rw [hasKey_eq, getKey_spec h, ho]
  exact ⟨rfl, rfl⟩

theorem sameData_getKey (env : Env) (s : State) (i : Nat) (id : Id) : SameData s (getKey env s i id).2 := by
  rw [getKey_snd]
  split <;> exact SameData.refl s

theorem inv_setCache {env : Env} {s : State} (h : Inv env s) (i : Nat) (c : Cache)
    (hc : ∀ id k, (id, k) ∈ c → s.store.get (env.norm id) = some k) : Inv env (s.setCache i c) := by
  refine ⟨?_, h.created, h.stored⟩
  intro j id k hm
  simp only [State.setCache] at hm
  split at hm
  · exact hc id k hm
  · exact h.cache j id k hm

theorem createKey_inv {env : Env} {s : State} (h : Inv env s) (i : Nat) (id : Id) (k : Key)
    (fresh : s.store.get (env.norm id) = none) : Inv env (createKey env s i id k) := by
  have hold : ∀ {id' k'}, (id', k') = (id, k) ∨ s.store.get (env.norm id') = some k' →
      (createKey env s i id k).store.get (env.norm id') = some k' := by
    rintro id' k' (he | hs)
    · cases he
      simp only [createKey, Store.get_put, if_true]
    · simp only [createKey, Store.get_put]
      split
      · rw [← ‹env.norm id = env.norm id'›, fresh] at hs
        cases hs
      · exact hs
  refine ⟨fun j id' k' hm => hold ?_, fun id' k' hm => hold ((List.mem_cons.mp hm).imp_right (h.created id' k')), ?_⟩
  · simp only [createKey] at hm
    split at hm
    · exact (Cache.mem_add hm).imp_right (h.cache i id' k')
    · exact Or.inr (h.cache j id' k' hm)
  · intro key k' hs
    simp only [createKey, Store.get_put] at hs
    split at hs
    · cases hs; exact ⟨id, List.mem_cons_self, ‹_›⟩
    · obtain ⟨id', hm, hn⟩ := h.stored key k' hs
      exact ⟨id', List.mem_cons_of_mem _ hm, hn⟩

theorem step_inv {env : Env} (C : Crypto) {s : State} (h : Inv env s) (op : Op) (hw : wfStep env s op = true) :
    Inv env (step env C s op).2 ∧ (∀ p, p ∈ s.created → p ∈ (step env C s op).2.created) := by
  refine step_preserves (P := fun s' => Inv env s' ∧ ∀ p, p ∈ s.created → p ∈ s'.created)
    ?_ ?_ ?_ C ⟨h, fun _ hp => hp⟩ op hw
  · intro s' i id v ⟨h', sub⟩ hv
    rw [getKey_spec h'] at hv
    refine ⟨inv_setCache h' i _ ?_, sub⟩
    intro id' k' hm
    rcases Cache.mem_add hm with he | hm
    · cases he; exact hv
    · exact h'.cache i id' k' hm
  · intro s' i id k ⟨h', sub⟩ fresh
    exact ⟨createKey_inv h' i id k fresh, fun p hp => List.mem_cons_of_mem _ (sub p hp)⟩
  · intro s' i ⟨h', sub⟩
    exact ⟨inv_setCache h' i [] (fun _ _ hm => nomatch hm), sub⟩

theorem getOrCreate_store {env : Env} {s : State} (h : Inv env s) (i : Nat) (id : Id) (k : Key) :
    (getOrCreate env s i id k).2.store.get (env.norm id) = some (getOrCreate env s i id k).1 := by
  have hg := getKey_spec h i id
  rw [getOrCreate_eq]
  split
  · rename_i v hv
    rw [(sameData_getKey env s i id).1, ← hg, hv]
  · simp only [createKey, Store.get_put, if_true]

theorem step_ident {env : Env} (C : Crypto) {s : State} (h : Inv env s) (op : Op) {uid : Id} {r : Option Identity}
    (ho : (step env C s op).1 = Obs.ident uid r) : ∃ ku ki, r = some (mkIdentity C ku ki)
      ∧ (step env C s op).2.store.get (env.norm uid) = some ku
      ∧ (step env C s op).2.store.get (env.norm (hexEnc (C.pubC ku))) = some ki := by
  cases op with
  | createIdentity i uid' k1 k2 =>
    -- get-or-create is a step of its own
    have goc := fun {s} (h : Inv env s) id k => step_inv C h (.getOrCreate i id k) rfl
    simp only [step, createIdentity_eq, Obs.ident.injEq] at ho goc ⊢
    obtain ⟨rfl, rfl⟩ := ho
    obtain ⟨h1, -⟩ := goc h uid' k1
    obtain ⟨h2, sub2⟩ := goc h1 (hexEnc (C.pubC (getOrCreate env s i uid' k1).1)) k2
    have hku := store_mono h1 h2 sub2 (getOrCreate_store h i uid' k1)
    have hki := getOrCreate_store h1 i (hexEnc (C.pubC (getOrCreate env s i uid' k1).1)) k2
    rw [(sameData_getKey env _ i uid').1, getKey_spec h2, hku]
    exact ⟨_, _, rfl, rfl, hki⟩
  | _ => simp only [step] at ho; cases ho

theorem run_append (env : Env) (C : Crypto) (a b : List Op) (s : State) :
    run env C s (a ++ b) = ((run env C s a).1 ++ (run env C (run env C s a).2 b).1, (run env C (run env C s a).2 b).2) := by
  induction a generalizing s with
  | nil => rfl
  | cons op a ih => simp only [List.cons_append, run, ih]

theorem wf_append (env : Env) (C : Crypto) (a b : List Op) (s : State) :
    wf env C s (a ++ b) = (wf env C s a && wf env C (run env C s a).2 b) := by
  induction a generalizing s with
  | nil => simp [wf, run]
  | cons op a ih => simp only [List.cons_append, wf, run, ih, Bool.and_assoc]

theorem run_inv {env : Env} (C : Crypto) (ops : List Op) {s : State} (h : Inv env s) (hw : wf env C s ops = true) :
    Inv env (run env C s ops).2 ∧ (∀ p, p ∈ s.created → p ∈ (run env C s ops).2.created) := by
  induction ops generalizing s with
  | nil => exact ⟨h, fun _ hp => hp⟩
  | cons op ops ih =>
    simp only [wf, Bool.and_eq_true] at hw
    obtain ⟨h1, sub1⟩ := step_inv C h op hw.1
    obtain ⟨h2, sub2⟩ := ih h1 hw.2
    exact ⟨h2, fun p hp => sub2 p (sub1 p hp)⟩

theorem run_ident {env : Env} (C : Crypto) (ops : List Op) {s : State} (h : Inv env s) (hw : wf env C s ops = true)
    {uid : Id} {r : Option Identity} (ho : Obs.ident uid r ∈ (run env C s ops).1) :
    ∃ ku ki, r = some (mkIdentity C ku ki) ∧ (run env C s ops).2.store.get (env.norm uid) = some ku
      ∧ (run env C s ops).2.store.get (env.norm (hexEnc (C.pubC ku))) = some ki := by
  induction ops generalizing s with
  | nil => nomatch ho
  | cons op ops ih =>
    simp only [wf, Bool.and_eq_true] at hw
    have h1 := (step_inv C h op hw.1).1
    rcases List.mem_cons.mp ho with he | ho
    · -- made by this step: the two keys are in the datastore after it, and stay
      obtain ⟨ku, ki, hr, hu, hi⟩ := step_ident C h op he.symm
      obtain ⟨h2, sub⟩ := run_inv C ops h1 hw.2
      exact ⟨ku, ki, hr, store_mono h1 h2 sub hu, store_mono h1 h2 sub hi⟩
    · exact ih h1 hw.2 ho

/-! ## the cache is an LRU map: bounded, one entry per id -/
def Cache.Ok (cap : Nat) (c : Cache) : Prop := c.length ≤ cap ∧ (c.map (·.1)).Nodup

theorem Cache.ok_nil (cap : Nat) : Cache.Ok cap [] := ⟨Nat.zero_le _, List.nodup_nil⟩

theorem Cache.ok_add {cap : Nat} {c : Cache} (id : Id) (v : Key) (h : Cache.Ok cap c) :
    Cache.Ok cap (Cache.add cap c id v) := by
  obtain ⟨hlen, hnd⟩ := h
  unfold Cache.add
  split
  · exact ⟨Nat.le_trans (Cache.remove_length_lt (assoc_mem ‹_›)) hlen,
      List.nodup_cons.mpr ⟨Cache.not_mem_remove c id, ((Cache.remove_sublist c id).map _).nodup hnd⟩⟩
  · have hnd' : (((id, v) :: c).map (·.1)).Nodup := List.nodup_cons.mpr ⟨assoc_none_iff.mp ‹_›, hnd⟩
    split
    · exact ⟨List.length_dropLast ▸ hlen, ((List.dropLast_sublist _).map _).nodup hnd'⟩
    · exact ⟨Nat.le_of_not_gt ‹_›, hnd'⟩

/-- a touched or added id is at the front (most recent) -/
theorem Cache.add_head (cap : Nat) (hcap : 1 ≤ cap) (c : Cache) (id : Id) (v : Key) :
    (Cache.add cap c id v).head? = some (id, v) := by
  unfold Cache.add
  split
  · rfl
  · split
    · cases c with
      | nil => exact absurd ‹_› (Nat.not_lt.mpr hcap)
      | cons p t => rfl
    · rfl

theorem step_cachesOk {env : Env} (C : Crypto) {s : State}
    (h : ∀ i, Cache.Ok env.cap (s.caches i)) (op : Op) : ∀ i, Cache.Ok env.cap ((step env C s op).2.caches i) := by
  have set : ∀ (s : State) i c, (∀ j, Cache.Ok env.cap (s.caches j)) → Cache.Ok env.cap c →
      ∀ j, Cache.Ok env.cap ((s.setCache i c).caches j) := by
    intro s i c hs hc j
    simp only [State.setCache]
    split
    · exact hc
    · exact hs j
  have create : ∀ (s : State) i id k, (∀ j, Cache.Ok env.cap (s.caches j)) →
      ∀ j, Cache.Ok env.cap ((createKey env s i id k).caches j) :=
    fun s i id k hs => set s i _ hs (Cache.ok_add id k (hs i))
  -- no freshness is needed: a direct `CreateKey` is taken apart, every other operation is well-formed by `rfl`
  cases op with
  | create i id k => exact create s i id k h
  | _ =>
    exact step_preserves (fun s i id v hs _ => set s i _ hs (Cache.ok_add id v (hs i)))
      (fun s i id k hs _ => create s i id k hs) (fun s i hs => set s i [] hs (Cache.ok_nil _)) C h _ rfl

theorem run_cachesOk {env : Env} (C : Crypto) (ops : List Op) {s : State}
    (h : ∀ i, Cache.Ok env.cap (s.caches i)) : ∀ i, Cache.Ok env.cap ((run env C s ops).2.caches i) := by
  induction ops generalizing s with
  | nil => exact h
  | cons op ops ih => exact ih (step_cachesOk C h op)

theorem hexVal_hexDigit : ∀ n, n < 16 → hexVal (hexDigit n) = some n := by decide

theorem hexDec_hexEnc (b : List Nat) (h : ∀ x, x ∈ b → x < 256) : hexDec (hexEnc b) = some b := by
  induction b with
  | nil => rfl
  | cons x t ih =>
    have hx : x < 256 := h x List.mem_cons_self
    have ht := ih (fun y hy => h y (List.mem_cons_of_mem _ hy))
    simp only [hexEnc, hexDec]
    rw [hexVal_hexDigit _ (Nat.mod_lt _ (by decide)), hexVal_hexDigit _ (Nat.mod_lt _ (by decide)), ht,
      Nat.mod_eq_of_lt (Nat.div_lt_of_lt_mul hx)]
    exact congrArg (fun n => some (n :: t)) (Nat.div_add_mod' x 16)

end Model.Keys
