import Proofs.Sort
/-!
# Proofs.Cmp — laws of the comparators of `entry/sorting/sorting.go` and `LamportClock.Compare`

`bytes.Compare`, `LamportClock.Compare` and `SortByEntryHash` are the integer codes of lexicographic
`compare`s (`cmpBytes_eq`, `clockCompare_eq`, `cmpHash_eq`), so antisymmetry and transitivity come from
core's `OrientedCmp`/`TransCmp` instances.  `LastWriteWins` ends in the constant 1 and is lawful only
between entries whose clocks differ (`keyNe`).
-/
namespace Model
open Std

/-- the integer a Go comparison returns -/
def ordInt : Ordering → Int
  | .lt => -1
  | .eq => 0
  | .gt => 1

theorem ordInt_swap (o : Ordering) : ordInt o.swap = - ordInt o := by cases o <;> rfl
theorem ordInt_pos {o : Ordering} : ordInt o > 0 ↔ o = .gt := by cases o <;> simp [ordInt]
theorem ordInt_neg {o : Ordering} : ordInt o < 0 ↔ o = .lt := by cases o <;> simp [ordInt]
theorem ordInt_eq_zero {o : Ordering} : ordInt o = 0 ↔ o = .eq := by cases o <;> simp [ordInt]
theorem ordInt_range (o : Ordering) : ordInt o = -1 ∨ ordInt o = 0 ∨ ordInt o = 1 := by cases o <;> simp [ordInt]
theorem ordInt_then (o p : Ordering) : ordInt (o.then p) = if ordInt o = 0 then ordInt p else ordInt o := by
  cases o <;> simp [ordInt, Ordering.then]

theorem cmpBytes_eq : ∀ a b : Bytes, cmpBytes a b = ordInt (compare a b)
  | [], [] => rfl
  | [], _ :: _ => rfl
  | _ :: _, [] => rfl
  | a :: as, b :: bs => by
    rw [cmpBytes, List.compare_cons_cons, ordInt_then, cmpBytes_eq as bs]
    rcases Nat.lt_trichotomy a b with h | h | h
    · simp [Nat.compare_eq_lt.mpr h, ordInt, h]
    · simp [h, ordInt]
    · simp [Nat.compare_eq_gt.mpr h, ordInt, h, Nat.lt_asymm h]

theorem cmpBytes_refl (a : Bytes) : cmpBytes a a = 0 := by
  rw [cmpBytes_eq, ordInt_eq_zero, compare_eq_iff_eq]

theorem cmpBytes_neg_trans (a b c : Bytes) (h1 : cmpBytes a b < 0) (h2 : cmpBytes b c < 0) : cmpBytes a c < 0 := by
  rw [cmpBytes_eq, ordInt_neg] at *
  exact TransCmp.lt_trans h1 h2

/-- `LamportClock.Compare` is the lexicographic comparison of (time, id) -/
abbrev ordClock : Clock → Clock → Ordering := compareLex (compareOn (·.time)) (compareOn (·.id))

theorem clockCompare_eq (a b : Clock) : clockCompare a b = ordInt (ordClock a b) := by
  rw [ordClock, compareLex, ordInt_then, compareOn, compareOn, ← cmpBytes_eq, clockCompare]
  rcases Int.lt_trichotomy a.time b.time with h | h | h
  · simp [Int.compare_eq_lt.mpr h, ordInt, h, Int.ne_of_lt h]
  · simp [h, ordInt]
  · simp [Int.compare_eq_gt.mpr h, ordInt, Int.lt_asymm h, (Int.ne_of_lt h).symm]

theorem clockCompare_range (a b : Clock) : clockCompare a b = -1 ∨ clockCompare a b = 0 ∨ clockCompare a b = 1 :=
  clockCompare_eq a b ▸ ordInt_range _

theorem clockCompare_swap (a b : Clock) : clockCompare a b = - clockCompare b a := by
  rw [clockCompare_eq, clockCompare_eq, ← ordInt_swap, ← OrientedCmp.eq_swap]

theorem clockCompare_zero {a b : Clock} (h : clockCompare a b = 0) : a.time = b.time ∧ a.id = b.id := by
  rw [clockCompare_eq, ordInt_eq_zero, compareLex_eq_eq] at h
  exact ⟨compare_eq_iff_eq.mp h.1, compare_eq_iff_eq.mp h.2⟩

theorem clockCompare_self (a : Clock) : clockCompare a a = 0 := by
  simp [clockCompare, cmpBytes_refl]

theorem clockCompare_trans {a b c : Clock} (h1 : clockCompare a b > 0) (h2 : clockCompare b c > 0) :
    clockCompare a c > 0 := by
  rw [clockCompare_eq, ordInt_pos] at *
  exact TransCmp.gt_trans h1 h2

/-- `SortByEntryHash` is the lexicographic comparison of (clock, id, hash) -/
abbrev ordHash : Entry → Entry → Ordering :=
  compareLex (compareLex (compareOn (·.clock.time)) (compareOn (·.clock.id)))
    (compareLex (compareOn (·.clock.id)) (compareOn (·.hash)))

theorem cmpHash_eq (a b : Entry) : cmpHash a b = ordInt (ordHash a b) := by
  simp only [cmpHash, clockCompare_eq, cmpBytes_eq, compareLex, compareOn, ordInt_then]

theorem cmpHash_swap (a b : Entry) : cmpHash a b = - cmpHash b a := by
  rw [cmpHash_eq, cmpHash_eq, ← ordInt_swap, ← OrientedCmp.eq_swap]

theorem cmpHash_self (a : Entry) : cmpHash a a = 0 := by
  have := cmpHash_swap a a; omega

theorem cmpHash_eq_zero {a b : Entry} (h : cmpHash a b = 0) : a.hash = b.hash := by
  simp only [cmpHash_eq, ordInt_eq_zero, compareLex_eq_eq] at h
  exact compare_eq_iff_eq.mp h.2.2

theorem cmpHash_trans {a b c : Entry} (h1 : cmpHash a b > 0) (h2 : cmpHash b c > 0) : cmpHash a c > 0 := by
  rw [cmpHash_eq, ordInt_pos] at *
  exact TransCmp.gt_trans h1 h2

theorem ltHash_iff (a b : Entry) : ltHash a b = true ↔ cmpHash a b > 0 := decide_eq_true_iff

theorem ltLWW_iff (a b : Entry) : ltLWW a b = true ↔ cmpLWW a b > 0 := decide_eq_true_iff

theorem ltHash_total {a b : Entry} (hne : a.hash ≠ b.hash) : ltHash a b = true ∨ ltHash b a = true := by
  rw [ltHash_iff, ltHash_iff]
  have hs := cmpHash_swap a b
  have hz : cmpHash a b ≠ 0 := fun h => hne (cmpHash_eq_zero h)
  omega

theorem ltHash_trans {a b c : Entry} (h1 : ltHash a b = true) (h2 : ltHash b c = true) : ltHash a c = true :=
  (ltHash_iff a c).mpr (cmpHash_trans ((ltHash_iff a b).mp h1) ((ltHash_iff b c).mp h2))

theorem ltHash_irrefl (a : Entry) : ltHash a a = false := by
  rw [← Bool.not_eq_true, ltHash_iff, cmpHash_self]; omega

theorem ltHash_asymm {a b : Entry} (h : ltHash a b = true) : ltHash b a = false := by
  rw [ltHash_iff] at h
  rw [← Bool.not_eq_true, ltHash_iff]
  have := cmpHash_swap a b; omega

theorem ltHash_STO (E : List Entry) (hE : ∀ a ∈ E, ∀ b ∈ E, a ≠ b → a.hash ≠ b.hash) : STO ltHash (· ∈ E) where
  trans := fun _ _ _ _ _ _ h1 h2 => ltHash_trans h1 h2
  total := fun a b ha hb hne => ltHash_total (hE a ha b hb hne)

def keyNe (a b : Entry) : Prop := a.clock.id ≠ b.clock.id ∨ a.clock.time ≠ b.clock.time

theorem clockCompare_ne_zero {a b : Entry} (h : keyNe a b) : clockCompare a.clock b.clock ≠ 0 :=
  fun h0 => h.elim (· (clockCompare_zero h0).2) (· (clockCompare_zero h0).1)

theorem cmpLWW_of_keyNe {a b : Entry} (h : keyNe a b) : cmpLWW a b = clockCompare a.clock b.clock := by
  unfold cmpLWW
  simp [clockCompare_ne_zero h]

theorem cmpLWW_ne_zero (a b : Entry) : cmpLWW a b ≠ 0 := by
  unfold cmpLWW
  dsimp only
  split
  · split
    · omega
    · assumption
  · assumption

theorem keyNe_symm {a b : Entry} (h : keyNe a b) : keyNe b a := h.imp Ne.symm Ne.symm

theorem cmpLWW_swap {a b : Entry} (h : keyNe a b) : cmpLWW a b = - cmpLWW b a := by
  rw [cmpLWW_of_keyNe h, cmpLWW_of_keyNe (keyNe_symm h)]
  exact clockCompare_swap _ _

theorem ltLWW_total {a b : Entry} (h : keyNe a b) : ltLWW a b = true ∨ ltLWW b a = true := by
  rw [ltLWW_iff, ltLWW_iff]
  have hs := cmpLWW_swap h
  have hz := cmpLWW_ne_zero a b
  omega

theorem ltLWW_asymm {a b : Entry} (hk : keyNe a b) (h : ltLWW a b = true) : ltLWW b a = false := by
  rw [ltLWW_iff] at h
  rw [← Bool.not_eq_true, ltLWW_iff]
  have := cmpLWW_swap hk; omega

theorem cmpLWW_pos_clock {a b : Entry} (h : cmpLWW a b > 0) :
    clockCompare a.clock b.clock > 0 ∨ (a.clock.time = b.clock.time ∧ a.clock.id = b.clock.id) := by
  unfold cmpLWW at h
  by_cases h0 : clockCompare a.clock b.clock = 0
  · exact Or.inr (clockCompare_zero h0)
  · simp only [h0, if_false] at h; exact Or.inl h

theorem cmpLWW_trans {a b c : Entry} (hab : keyNe a b) (hbc : keyNe b c) (hac : keyNe a c)
    (h1 : cmpLWW a b > 0) (h2 : cmpLWW b c > 0) : cmpLWW a c > 0 := by
  rw [cmpLWW_of_keyNe hab] at h1
  rw [cmpLWW_of_keyNe hbc] at h2
  rw [cmpLWW_of_keyNe hac]
  exact clockCompare_trans h1 h2

theorem ltLWW_trans {a b c : Entry} (hab : keyNe a b) (hbc : keyNe b c) (hac : keyNe a c)
    (h1 : ltLWW a b = true) (h2 : ltLWW b c = true) : ltLWW a c = true :=
  (ltLWW_iff a c).mpr (cmpLWW_trans hab hbc hac ((ltLWW_iff a b).mp h1) ((ltLWW_iff b c).mp h2))

theorem ltLWW_STO (E : List Entry) (hE : ∀ a ∈ E, ∀ b ∈ E, a ≠ b → keyNe a b) : STO ltLWW (· ∈ E) where
  trans := by
    intro a b c ha hb hc h1 h2
    by_cases hab : a = b
    · subst hab; exact h2
    · by_cases hbc : b = c
      · subst hbc; exact h1
      · by_cases hac : a = c
        · subst hac
          have := ltLWW_asymm (hE a ha b hb hab) h1
          rw [this] at h2; cases h2
        · exact ltLWW_trans (hE a ha b hb hab) (hE b hb c hc hbc) (hE a ha c hc hac) h1 h2
  total := fun a b ha hb hne => ltLWW_total (hE a ha b hb hne)

end Model
