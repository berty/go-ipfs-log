import Proofs.Values
import Model.Iterator
/-!
# Proofs.Iterator — `IPFSLog.Iterator` piece by piece (C15)

A successful iteration is `iterTrim o` of the traversal from the start entries (`iterator_ok`).  With a
lower bound the traversal is the full emission `iterFull l start` cut after the first entry carrying the
bound (`iterator_lower`); without one nothing is trimmed and the traversal is limited by the amount
(`iterator_upper`).  The range theorems of `Props/C15.lean` read their cases off these two and the equations
for `iterDropGt` and `iterKeepLast`.
-/
namespace Model

theorem lookupAll_none {E : List Entry} : ∀ {cs : List Hash}, (∃ c ∈ cs, has E c = false) → lookupAll E cs = none
  | c :: cs, ⟨c', hc', hf⟩ => by
    rw [lookupAll]
    rcases List.mem_cons.mp hc' with rfl | hm
    · rw [get?_none_iff.mpr hf]
    · rw [lookupAll_none ⟨c', hm, hf⟩]
      cases get? E c <;> rfl

theorem lookupAll_mem {E : List Entry} : ∀ {cs : List Hash} {out : List Entry}, lookupAll E cs = some out → ∀ x ∈ out, x ∈ E
  | [], out, h => by cases h; exact fun _ hx => nomatch hx
  | c :: cs, out, h => by
    rw [lookupAll] at h
    split at h
    · rename_i e r hg hr
      cases h
      exact fun x hx => (List.mem_cons.mp hx).elim (fun e => e ▸ (get?_mem hg).1) (lookupAll_mem hr x)
    · cases h

theorem ltStart_mem {E : List Entry} : ∀ {cs : List Hash} {start out : List Entry},
    (∀ x ∈ start, x ∈ E) → ltStart E cs start = some out → ∀ x ∈ out, x ∈ E
  | [], start, out, hs, h => by cases h; exact hs
  | c :: cs, start, out, hs, h => by
    rw [ltStart] at h
    split at h
    · cases h
    · split at h
      · cases h
      · rename_i hl
        exact ltStart_mem (lookupAll_mem hl) h

theorem iterStart_mem {U : List Entry} {l : Log} (I : Inv U l) (o : IterOpts) (start : List Entry)
    (h : iterStart l o = .ok start) : ∀ x ∈ start, x ∈ l.entries := by
  have hheads : ∀ x ∈ sortedHeads l, x ∈ l.entries :=
    fun x hx => I.headsIn x ((mem_sortedHeads I.headsNodup).mp hx)
  unfold iterStart at h
  split at h
  · split at h
    · rename_i s hs; cases h; exact lookupAll_mem hs
    · cases h
  · split at h
    · split at h
      · rename_i s hs; cases h; exact ltStart_mem hheads hs
      · cases h
    · cases h; exact hheads

theorem iterator_ok {l : Log} {o : IterOpts} {out : List Entry} {c : Bool} (h : iterator l o = .ok out c) :
    c = true ∧ (out = [] ∨ ∃ start, o.amount ≠ some 0 ∧ iterStart l o = .ok start ∧
      out = iterTrim o (traverseG l.entries (before l.sortFn) (omFromList start) (iterCount o) (iterEnd o))) := by
  unfold iterator at h
  split at h
  · cases h; exact ⟨rfl, Or.inl rfl⟩
  · rename_i ha
    split at h
    · cases h
    · cases h
    · rename_i start hs
      cases h
      exact ⟨rfl, Or.inr ⟨start, ha, hs, rfl⟩⟩

theorem iterator_ok_eq {l : Log} {o : IterOpts} {out : List Entry} {c : Bool} {start : List Entry}
    (h : iterator l o = .ok out c) (ha : o.amount ≠ some 0) (hs : iterStart l o = .ok start) :
    out = iterTrim o (traverseG l.entries (before l.sortFn) (omFromList start) (iterCount o) (iterEnd o)) := by
  unfold iterator at h
  rw [if_neg ha, hs] at h
  cases h; rfl

theorem iterTrim_infix (o : IterOpts) (T : List Entry) : iterTrim o T <:+: T := by
  have h1 : iterDropGt o T <+: T := by
    unfold iterDropGt
    split
    · exact List.dropLast_prefix _
    · exact List.prefix_rfl
  have h2 : iterKeepLast o (iterDropGt o T) <:+ iterDropGt o T := by
    unfold iterKeepLast
    split
    · exact List.drop_suffix _ _
    · exact List.suffix_rfl
  exact h2.isInfix.trans h1.isInfix

theorem iterTrim_of_no_lower {o : IterOpts} (hgte : o.gte = none) (hgt : o.gt = none) (w : List Entry) :
    iterTrim o w = w := by
  simp [iterTrim, iterDropGt, iterKeepLast, hgte, hgt]

theorem iterDropGt_none {o : IterOpts} (hgt : o.gt = none) (w : List Entry) : iterDropGt o w = w := by
  simp [iterDropGt, hgt]

theorem iterDropGt_some {o : IterOpts} {g : Hash} (hgt : o.gt = some g) (w : List Entry) :
    iterDropGt o w = w.dropLast := by
  cases w <;> simp [iterDropGt, hgt]

theorem iterKeepLast_none {o : IterOpts} (hamt : o.amount = none) (w : List Entry) : iterKeepLast o w = w := by
  simp [iterKeepLast, iterAmount, hamt]

theorem iterEnd_some {o : IterOpts} {g : Hash} (h : iterEnd o = some g) : o.gt.isSome = true ∨ o.gte.isSome = true := by
  unfold iterEnd at h
  split at h
  · rename_i hg; exact Or.inr (by rw [hg]; rfl)
  · exact Or.inl (by rw [h]; rfl)

theorem iterKeepLast_some {o : IterOpts} {a : Int} (hamt : o.amount = some a) (h0 : 0 ≤ a)
    {g : Hash} (hend : iterEnd o = some g) (w : List Entry) :
    iterKeepLast o w = w.drop (w.length - a.toNat) := by
  have hA : iterAmount o = a := by simp [iterAmount, hamt]
  unfold iterKeepLast
  rw [hA]
  split
  · rfl
  · rename_i hc
    have : ¬ a < (w.length : Int) := fun hh => hc ⟨iterEnd_some hend, by omega, hh⟩
    have : w.length - a.toNat = 0 := by omega
    rw [this, List.drop_zero]

/-- the full (unbounded, no lower bound) emission from the start entries of an iteration -/
def iterFull (l : Log) (start : List Entry) : List Entry :=
  traverseG l.entries (before l.sortFn) (omFromList start) (-1) none

theorem iterFull_heads {U : List Entry} {l : Log} (I : Inv U l) (ho : OrderOk l.sortFn l.entries) :
    iterFull l (sortedHeads l) = (values l).reverse := by
  -- `traverse` sorts its roots again: sorting the sorted heads changes nothing
  have hidem : goSort (before l.sortFn) (goSort (before l.sortFn) l.heads) = goSort (before l.sortFn) l.heads :=
    goSort_perm_invariant (orderOk_sto I.nodup ho) (orderOk_asymm ho) (fun x hx => I.headsIn x (mem_goSort.mp hx))
      ((goSort_perm _ _).nodup_iff.mpr (nodup_of_hashes_nodup I.headsNodup)) (goSort_perm _ _)
  rw [iterFull, values, List.reverse_reverse, traverse, omFromList_eq_self (sortedHeads_nodup l),
    sortedHeads_eq_goSort I.headsNodup, traverseG, traverseG, hidem, traverseFuel, traverseFuel,
    (goSort_perm _ _).length_eq]

theorem iterator_lower {l : Log} {o : IterOpts} {out : List Entry} {c : Bool} {start : List Entry}
    (h : iterator l o = .ok out c) (ha : o.amount ≠ some 0) (hs : iterStart l o = .ok start)
    {g : Hash} (hend : iterEnd o = some g) :
    out = iterTrim o (upTo g (iterFull l start)) := by
  have hcnt : iterCount o = -1 := by simp [iterCount, hend]
  rw [iterator_ok_eq h ha hs, hcnt, hend, traverse_endHash_find]; rfl

theorem iterator_lower_inside {U : List Entry} {l : Log} (I : Inv U l)
    {o : IterOpts} {out : List Entry} {c : Bool} {start : List Entry}
    (h : iterator l o = .ok out c) (ha : o.amount ≠ some 0) (hs : iterStart l o = .ok start)
    {g : Hash} (hend : iterEnd o = some g) {x : Entry} (hx : x ∈ iterFull l start) (hxg : x.hash = g) :
    let w := iterDropGt o ((iterFull l start).takeWhile (fun e => e.hash != g) ++ [x])
    (o.amount = none → out = w) ∧
    (∀ a, o.amount = some a → 0 ≤ a → out = w.drop (w.length - a.toNat)) := by
  rw [iterator_lower h ha hs hend, upTo_of_mem (l := iterFull l start) I.nodup
    (traverseG_subset fun r hr => iterStart_mem I o start hs r (mem_omFromList hr)) hx hxg]
  exact ⟨fun hamt => iterKeepLast_none hamt _, fun _ hamt h0 => iterKeepLast_some hamt h0 hend _⟩

theorem iterator_lower_outside {l : Log} {o : IterOpts} {out : List Entry} {c : Bool} {start : List Entry}
    (h : iterator l o = .ok out c) (ha : o.amount ≠ some 0) (hs : iterStart l o = .ok start)
    {g : Hash} (hend : iterEnd o = some g) (hout : ∀ x ∈ iterFull l start, x.hash ≠ g) :
    out = iterTrim o (iterFull l start) := by
  rw [iterator_lower h ha hs hend, upTo_of_not_mem hout]

theorem iterator_upper {l : Log} {o : IterOpts} {out : List Entry} {c : Bool} {start : List Entry}
    (h : iterator l o = .ok out c) (ha : o.amount ≠ some 0) (hs : iterStart l o = .ok start)
    (hgte : o.gte = none) (hgt : o.gt = none) :
    out = traverseG l.entries (before l.sortFn) (omFromList start) (iterAmount o) none := by
  have hend : iterEnd o = none := by simp [iterEnd, hgte, hgt]
  have hcnt : iterCount o = iterAmount o := by
    rw [iterCount, iterAmount, hend]
    cases o.amount <;> rfl
  rw [iterator_ok_eq h ha hs, iterTrim_of_no_lower hgte hgt, hcnt, hend]

/-! ## start entries none of which lies below another -/

theorem rootsIndep_of_unref {U : List Entry} {l : Log} (I : Inv U l) {roots : List Entry}
    (h : ∀ r ∈ roots, r ∈ l.heads) : RootsIndep l.entries roots :=
  fun _ _ b _ p hd hc hg hp => I.headsUnref p (h p hp) ⟨b, hd.mem_right, (get?_mem hg).2 ▸ hc⟩

/-- roots carrying the same clock time (e.g. a single root) are independent -/
theorem rootsIndep_of_same_time {U : List Entry} {l : Log} (I : Inv U l) {roots : List Entry}
    (h : ∀ r ∈ roots, ∀ r' ∈ roots, r.clock.time = r'.clock.time) : RootsIndep l.entries roots := by
  intro r hr b c p hd hc hg hp
  have h1 := hd.time_le I
  have h2 := I.mono b hd.mem_right c hc p hg
  have h3 := h r hr p hp
  omega

end Model
