import Proofs.Append
/-!
# Proofs.Difference — `difference(entriesA, headsA, logB)` on any input

Sound, duplicate-free, and complete along alive paths (`difference_general`), by the worklist invariant `DInv`
and the measure `stack.length + unmarked`.  The exact statement for two replicas of one log is
`difference_spec` in Proofs/Join.
-/
namespace Model

theorem diffPush_eq (EB : List Entry) : ∀ (cs s0 t0 : List Hash), ∃ news : List Hash,
    cs.foldl (diffPush EB) (s0, t0) = (s0 ++ news, news.reverse ++ t0) ∧ news.Nodup ∧
    (∀ x ∈ news, x ∈ cs ∧ has EB x = false ∧ x ∉ t0) ∧ ∀ c ∈ cs, has EB c = false → c ∈ news ∨ c ∈ t0
  | [], s0, t0 => ⟨[], by simp, List.nodup_nil, by simp, by simp⟩
  | c :: cs, s0, t0 => by
    rw [List.foldl_cons, diffPush]
    split
    · rename_i hcond
      simp only [Bool.and_eq_true, Bool.not_eq_true', List.contains_eq_mem, decide_eq_false_iff_not] at hcond
      obtain ⟨news, h1, h2, h3, h4⟩ := diffPush_eq EB cs (s0 ++ [c]) (c :: t0)
      refine ⟨c :: news, by simp [h1], List.nodup_cons.mpr ⟨fun hm => (h3 c hm).2.2 List.mem_cons_self, h2⟩, ?_, ?_⟩
      · intro x hx
        rcases List.mem_cons.mp hx with rfl | hx
        · exact ⟨List.mem_cons_self, hcond.2, hcond.1⟩
        · exact ⟨List.mem_cons_of_mem _ (h3 x hx).1, (h3 x hx).2.1, fun hm => (h3 x hx).2.2 (List.mem_cons_of_mem _ hm)⟩
      · intro x hx hb
        rcases List.mem_cons.mp hx with rfl | hx
        · exact Or.inl List.mem_cons_self
        · exact (h4 x hx hb).elim (fun h => Or.inl (List.mem_cons_of_mem _ h))
            (fun h => (List.mem_cons.mp h).elim (fun e => Or.inl (e ▸ List.mem_cons_self)) Or.inr)
    · rename_i hcond
      obtain ⟨news, h1, h2, h3, h4⟩ := diffPush_eq EB cs s0 t0
      refine ⟨news, h1, h2, fun x hx => ⟨List.mem_cons_of_mem _ (h3 x hx).1, (h3 x hx).2⟩, ?_⟩
      intro x hx hb
      rcases List.mem_cons.mp hx with rfl | hx
      · exact Or.inr (by simpa [hb] using hcond)
      · exact h4 x hx hb

/-- what the worklist invariant uses of `diffPush_eq` -/
structure PushSpec (EB : List Entry) (cs : List Hash) (s0 t0 : List Hash) (r : List Hash × List Hash) : Prop where
  travMono : ∀ x ∈ t0, x ∈ r.2
  stackMono : ∀ x ∈ s0, x ∈ r.1
  marked : ∀ c ∈ cs, has EB c = false → c ∈ r.2
  stackNew : ∀ x ∈ r.1, x ∈ s0 ∨ (x ∈ cs ∧ has EB x = false)
  travNew : ∀ x ∈ r.2, x ∈ t0 ∨ x ∈ r.1

theorem diffPush_spec (EB : List Entry) (cs s0 t0 : List Hash) :
    PushSpec EB cs s0 t0 (cs.foldl (diffPush EB) (s0, t0)) := by
  obtain ⟨news, h1, _, h3, h4⟩ := diffPush_eq EB cs s0 t0
  rw [h1]
  exact {
    travMono := fun x h => List.mem_append_right _ h
    stackMono := fun x h => List.mem_append_left _ h
    marked := fun c hc hb => List.mem_append.mpr ((h4 c hc hb).imp_left List.mem_reverse.mpr)
    stackNew := fun x hx => (List.mem_append.mp hx).imp_right (fun h => ⟨(h3 x h).1, (h3 x h).2.1⟩)
    travNew := fun x hx => (List.mem_append.mp hx).symm.imp_right
      (fun h => List.mem_append_right _ (List.mem_reverse.mp h)) }

theorem diffPush_measure (EB : List Entry) (L : List Hash) (cs s0 t0 : List Hash) (hL : ∀ c ∈ cs, c ∈ L) :
    (cs.foldl (diffPush EB) (s0, t0)).1.length + unmarked L (cs.foldl (diffPush EB) (s0, t0)).2
      ≤ s0.length + unmarked L t0 := by
  obtain ⟨news, h1, h2, h3, _⟩ := diffPush_eq EB cs s0 t0
  have := unmarked_append_le L t0 news.reverse ((List.reverse_perm news).nodup_iff.mpr h2)
    (fun h hh => ⟨hL h (h3 h (List.mem_reverse.mp hh)).1, (h3 h (List.mem_reverse.mp hh)).2.2⟩)
  rw [h1]
  simp only [List.length_append, List.length_reverse] at this ⊢
  omega

/-- `h` would be processed when popped -/
def aliveH (EA EB : List Entry) (idB : Bytes) (h : Hash) : Prop :=
  ∃ eA, get? EA h = some eA ∧ has EB h = false ∧ eA.logId = idB

/-- `h` has been processed (an entry of `res` carries it) or would not be processed when popped -/
def doneH (EA EB : List Entry) (idB : Bytes) (res : List Entry) (h : Hash) : Prop :=
  (∃ r ∈ res, r.hash = h) ∨ ¬ aliveH EA EB idB h

/-- the worklist invariant of `diffLoop`, whose state is `stack`, `trav`, `res` -/
structure DInv (EA EB : List Entry) (idB : Bytes) (roots : List Hash)
    (stack trav : List Hash) (res : List Entry) : Prop where
  sound : ∀ r ∈ res, r ∈ EA ∧ has EB r.hash = false ∧ r.logId = idB
  kids : ∀ r ∈ res, ∀ c ∈ r.next, has EB c = false → c ∈ trav
  travDone : ∀ h ∈ trav, h ∈ stack ∨ doneH EA EB idB res h
  rootsDone : ∀ h ∈ roots, h ∈ stack ∨ doneH EA EB idB res h
  nodup : (hashes res).Nodup

section Step
variable {EA EB : List Entry} {idB : Bytes} {roots stack trav : List Hash} {res : List Entry} {h : Hash} {eA : Entry}

theorem doneH_mono {res' : List Entry} (hs : ∀ r ∈ res, r ∈ res') (hd : doneH EA EB idB res h) : doneH EA EB idB res' h :=
  hd.imp_left fun ⟨r, hr, hh⟩ => ⟨r, hs r hr, hh⟩

theorem DInv.drop (I : DInv EA EB idB roots (h :: stack) trav res) (hdead : ¬ aliveH EA EB idB h) :
    DInv EA EB idB roots stack trav res :=
  have hpop : ∀ x, x ∈ h :: stack ∨ doneH EA EB idB res x → x ∈ stack ∨ doneH EA EB idB res x := fun _ hx =>
    hx.elim (fun h1 => (List.mem_cons.mp h1).elim (fun e => Or.inr (Or.inr (e ▸ hdead))) Or.inl) Or.inr
  { I with travDone := fun x hx => hpop x (I.travDone x hx), rootsDone := fun x hx => hpop x (I.rootsDone x hx) }

theorem DInv.push {r : List Hash × List Hash} (I : DInv EA EB idB roots (h :: stack) trav res)
    (hg : get? EA h = some eA) (hb : has EB h = false) (hid : eA.logId = idB)
    (P : PushSpec EB eA.next stack (trav.insert h) r) : DInv EA EB idB roots r.1 r.2 (omSet res eA) := by
  obtain ⟨heA, hhash⟩ := get?_mem hg
  have hdone : doneH EA EB idB (omSet res eA) h := by
    obtain ⟨x, hx, hxh⟩ := has_iff.mp (show has (omSet res eA) eA.hash = true by simp [has_omSet])
    exact Or.inl ⟨x, hx, hxh.trans hhash⟩
  have hpop : ∀ x, x ∈ h :: stack ∨ doneH EA EB idB res x → x ∈ r.1 ∨ doneH EA EB idB (omSet res eA) x := by
    rintro x (h3 | h3)
    · rcases List.mem_cons.mp h3 with rfl | h3
      · exact Or.inr hdone
      · exact Or.inl (P.stackMono x h3)
    · exact Or.inr (doneH_mono (fun _ => subset_omSet) h3)
  exact {
    sound := by
      intro x hx
      rcases mem_omSet.mp hx with h1 | ⟨rfl, _⟩
      · exact I.sound x h1
      · exact ⟨heA, hhash ▸ hb, hid⟩
    kids := by
      intro x hx c hc hcb
      rcases mem_omSet.mp hx with h1 | ⟨rfl, _⟩
      · exact P.travMono c (List.mem_insert_of_mem (I.kids x h1 c hc hcb))
      · exact P.marked c hc hcb
    travDone := by
      intro x hx
      rcases P.travNew x hx with h1 | h1
      · rcases List.mem_insert_iff.mp h1 with rfl | h2
        · exact Or.inr hdone
        · exact hpop x (I.travDone x h2)
      · exact Or.inl h1
    rootsDone := fun x hx => hpop x (I.rootsDone x hx)
    nodup := nodup_omSet I.nodup }

theorem diffLoop_dead {fuel : Nat} (hdead : ¬ aliveH EA EB idB h) :
    diffLoop EA EB idB (fuel + 1) (h :: stack) trav res = diffLoop EA EB idB fuel stack trav res := by
  rw [diffLoop]
  cases hg : get? EA h with
  | none => rfl
  | some eA => exact if_neg fun hc => hdead ⟨eA, hg, by simpa using hc⟩

theorem diffLoop_alive {fuel : Nat} (hg : get? EA h = some eA) (hb : has EB h = false) (hid : eA.logId = idB) :
    diffLoop EA EB idB (fuel + 1) (h :: stack) trav res =
      let r := eA.next.foldl (diffPush EB) (stack, trav.insert h)
      diffLoop EA EB idB fuel r.1 r.2 (omSet res eA) := by
  rw [diffLoop, hg]
  -- the model's `if trav.contains h then trav else h :: trav` unfolds to `trav.insert h`
  exact if_pos (by simp [hb, hid])

end Step

theorem diffLoop_spec (EA EB : List Entry) (idB : Bytes) (roots : List Hash) :
    ∀ (fuel : Nat) (stack trav : List Hash) (res : List Entry),
      DInv EA EB idB roots stack trav res →
      stack.length + unmarked (EA.flatMap (·.next)) trav < fuel →
      ∃ trav', DInv EA EB idB roots [] trav' (diffLoop EA EB idB fuel stack trav res)
  | 0, _, _, _, _, h => by omega
  | fuel + 1, [], trav, res, I, _ => ⟨trav, I⟩
  | fuel + 1, h :: stack, trav, res, I, hm => by
    rw [List.length_cons] at hm
    by_cases ha : aliveH EA EB idB h
    · obtain ⟨eA, hg, hb, hid⟩ := ha
      rw [diffLoop_alive hg hb hid]
      -- marking `h` and running the inner loop does not raise the measure, and the stack has lost `h`
      have hunm := unmarked_mono (EA.flatMap (·.next)) (t' := trav.insert h) fun _ => List.mem_insert_of_mem
      have hmeas := diffPush_measure EB (EA.flatMap (·.next)) eA.next stack (trav.insert h)
        (fun c hc => List.mem_flatMap.mpr ⟨eA, (get?_mem hg).1, hc⟩)
      exact diffLoop_spec EA EB idB roots fuel _ _ _
        (I.push hg hb hid (diffPush_spec EB eA.next stack _)) (by omega)
    · rw [diffLoop_dead ha]
      exact diffLoop_spec EA EB idB roots fuel stack trav res (I.drop ha) (by omega)

/-- entries reachable from a root through entries that are all processed when popped -/
inductive AlivePath (EA EB : List Entry) (idB : Bytes) (roots : List Hash) : Entry → Prop
  | root {h : Hash} {e : Entry} : h ∈ roots → get? EA h = some e → has EB h = false → e.logId = idB →
      AlivePath EA EB idB roots e
  | step {e' e : Entry} {c : Hash} : AlivePath EA EB idB roots e' → c ∈ e'.next → get? EA c = some e →
      has EB c = false → e.logId = idB → AlivePath EA EB idB roots e

theorem alivePath_in_result {EA EB : List Entry} {idB : Bytes} {roots trav : List Hash} {res : List Entry}
    (hEA : (hashes EA).Nodup) (I : DInv EA EB idB roots [] trav res) {e : Entry}
    (hp : AlivePath EA EB idB roots e) : e ∈ res := by
  -- with the stack empty, a hash that would be processed has its entry in the result
  have key : ∀ {c : Hash} {e : Entry}, get? EA c = some e → has EB c = false → e.logId = idB →
      c ∈ ([] : List Hash) ∨ doneH EA EB idB res c → e ∈ res := by
    intro c e hg hb hi hd
    rcases hd with h1 | ⟨r, hr', hrh⟩ | h1
    · cases h1
    · exact eq_of_hash_eq hEA (I.sound r hr').1 (get?_mem hg).1 (hrh.trans (get?_mem hg).2.symm) ▸ hr'
    · exact absurd ⟨e, hg, hb, hi⟩ h1
  induction hp with
  | root hr hg hb hi => exact key hg hb hi (I.rootsDone _ hr)
  | step _ hc hg hb hi ih => exact key hg hb hi (I.travDone _ (I.kids _ ih _ hc hb))

theorem difference_general (EA HA : List Entry) (l : Log) (hEA : (hashes EA).Nodup) :
    (∀ r ∈ difference EA HA l, r ∈ EA ∧ has l.entries r.hash = false ∧ r.logId = l.id) ∧
    (hashes (difference EA HA l)).Nodup ∧
    (∀ e, AlivePath EA l.entries l.id (HA.map (·.hash)) e → e ∈ difference EA HA l) := by
  unfold difference
  split
  · rename_i hz
    refine ⟨by simp, by simp [hashes], fun e hp => absurd hz ?_⟩
    -- an alive path starts at a head and finds it in `EA`
    induction hp with
    | root hr hg _ _ =>
      rintro (h | h)
      · exact List.ne_nil_of_mem (get?_mem hg).1 (List.eq_nil_of_length_eq_zero h)
      · rw [List.eq_nil_of_length_eq_zero h] at hr
        cases hr
    | step _ _ _ _ _ ih => exact ih
  · have I0 : DInv EA l.entries l.id (HA.map (·.hash)) (HA.map (·.hash)) [] [] := {
      sound := by simp, kids := by simp, travDone := by simp
      rootsDone := fun h hh => Or.inl hh, nodup := by simp [hashes] }
    have hf : (HA.map (·.hash)).length + unmarked (EA.flatMap (·.next)) [] < diffFuel EA HA := by
      have : unmarked (EA.flatMap (·.next)) [] ≤ (EA.flatMap (·.next)).length := List.countP_le_length
      rw [diffFuel, List.length_map]
      omega
    obtain ⟨trav', I⟩ := diffLoop_spec EA l.entries l.id (HA.map (·.hash)) _ _ _ _ I0 hf
    exact ⟨I.sound, I.nodup, fun e hp => alivePath_in_result hEA I hp⟩

end Model
