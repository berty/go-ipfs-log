import Proofs.Conc
import Proofs.ConcSeq
/-!
# Proofs.ConcLog — the log states along an execution

What a critical section (`applyW`) keeps, replay of event lists (`replay_inv`; a later state is the replay of
the newer events on the earlier one, `replay_append`), and `Good`: everything that holds in every reachable
state of an initial world, with its one preservation proof.
-/
namespace Model.Conc
open Model

/-- the operation never removes entries: everything except a bounded `Join` -/
def WOp.unbounded : WOp → Prop
  | .join _ size => ¬ size > -1
  | _ => True

theorem applyW_join (oid : Bytes) (size : Int) (r : Regs) (log : Log) :
    (applyW (.join oid size) r log).1 = log ∨
    join log oid r.es r.hs size = .ok (applyW (.join oid size) r log).1 := by
  simp only [applyW]
  split
  · exact .inr ‹_›
  · exact .inl rfl

theorem applyW_grows {op : WOp} (hu : op.unbounded) (r : Regs) (log : Log) :
    ∀ x ∈ log.entries, x ∈ (applyW op r log).1.entries := by
  intro x hx
  cases op with
  | append pc h tag => exact append_snd_entries log pc h tag ▸ subset_omSet hx
  | join oid size =>
    rcases applyW_join oid size r log with e | hj
    · rwa [e]
    · exact join_grows hu hj x hx
  | _ => exact hx

theorem applyW_nodupH (op : WOp) (r : Regs) {log : Log} (hn : NodupH log.entries) :
    NodupH (applyW op r log).1.entries := by
  cases op with
  | append pc h tag => exact append_snd_entries log pc h tag ▸ nodup_omSet hn
  | join oid size =>
    rcases applyW_join oid size r log with e | hj
    · rwa [e]
    · exact join_nodupH hn hj
  | _ => exact hn

theorem applyW_regs (op : WOp) (r : Regs) (log : Log) :
    (applyW op r log).2.hs = r.hs ∧ (applyW op r log).2.es = r.es := by
  cases op with
  | join oid size => simp only [applyW]; split <;> simp
  | _ => simp [applyW]

theorem append_out_clock_id (pc : Int) (h : Hash) (tag : Nat) (r : Regs) (l : Log) :
    ((applyW (.append pc h tag) r l).2.out.map (·.clock.id)) = some l.clock.id := rfl

theorem replay_inv {P : Log → Prop} {init : Log} (h0 : P init) :
    ∀ (evs : List Ev), (∀ t op r, Ev.wr t op r ∈ evs → ∀ log, P log → P (applyW op r log).1) → P (replay init evs)
  | [], _ => h0
  | e :: older, h => by
    have ih := replay_inv h0 older fun t op r hm => h t op r (List.mem_cons_of_mem _ hm)
    cases e with
    | wr t op r => exact h t op r List.mem_cons_self _ ih
    | _ => exact ih

theorem replay_append (init : Log) (older : List Ev) :
    ∀ newer : List Ev, replay init (newer ++ older) = replay (replay init older) newer
  | [] => rfl
  | e :: ns => by cases e <;> simp only [List.cons_append, replay, replay_append init older ns]

theorem replay_grows (init : Log) (older newer : List Ev) (h : ∀ t op r, Ev.wr t op r ∈ newer → op.unbounded) :
    ∀ x ∈ (replay init older).entries, x ∈ (replay init (newer ++ older)).entries := fun x hx =>
  replay_append init older newer ▸ replay_inv (P := fun lg => x ∈ lg.entries) hx newer
    fun t op r hm log hp => applyW_grows (h t op r hm) r log x hp

theorem replay_nodupH {init : Log} (hn : NodupH init.entries) (evs : List Ev) : NodupH (replay init evs).entries :=
  replay_inv (P := fun lg => NodupH lg.entries) hn evs fun _ op r _ _ hp => applyW_nodupH op r hp

structure Good (w0 w : World) : Prop where
  coh : Coh w
  excl : Excl w
  rep : ∀ l, w.logs l = replay (w0.logs l) (w.ev l)
  sess : ∀ l, scan (w.ev l) = some (w.locks l).writer
  evs : ∀ l t op r, Ev.wr t op r ∈ w.ev l → Instr.write l op ∈ (w0.thr t).rest
  rest : ∀ t i, i ∈ (w.thr t).rest → i ∈ (w0.thr t).rest

theorem good_init {w0 : World} (hI : Init w0) : Good w0 w0 where
  coh := init_coh hI
  excl := init_excl hI.locks
  rep := fun l => by rw [hI.ev l]; rfl
  sess := fun l => by rw [hI.ev l, hI.locks l]; rfl
  evs := fun l _ _ _ hm => by rw [hI.ev l] at hm; cases hm
  rest := fun _ _ h => h

theorem step_good {w0 w w' : World} {t : Tid} (hG : Good w0 w) (h : step w t = some w') : Good w0 w' := by
  refine ⟨step_coh hG.coh h, step_excl hG.excl h, fun l => ?_, fun l => ?_, fun l u op r hm => ?_,
    fun u i hi => hG.rest u i (rest_subset h i hi)⟩
  · cases step_effect h l with
    | none he hl _ | acq he hl _ _ | rel he hl _ _ => rw [he, hl]; exact hG.rep l
    | wr op rest hr he hl _ => rw [he, hl, hG.rep l]; rfl
  · have := hG.sess l
    cases step_effect h l with
    | none he _ hk => rw [he, hk]; exact this
    | acq he _ hk hk' => rw [hk] at this; simp [he, hk', scan, this]
    | rel he _ hk hk' => rw [hk] at this; simp [he, hk', scan, this]
    | wr op rest hr he _ hk =>
      rw [write_held hG.coh hr] at this
      simp [he, hk, scan, this, write_held hG.coh hr]
  · rcases step_ev_wr h hm with h1 | ⟨rfl, _, rest, hr⟩
    · exact hG.evs l u op r h1
    · exact hG.rest u _ (by rw [hr]; simp)

theorem run_good {w0 : World} (hI : Init w0) (s : List Tid) : Good w0 (run w0 s) :=
  run_inv (P := Good w0) (fun _ _ _ hG h => step_good hG h) s w0 (good_init hI)

end Model.Conc
