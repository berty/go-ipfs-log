import Proofs.Values
import Proofs.Rebuild
import Model.System
/-!
# Proofs.System — every reachable system satisfies the replica invariant, and each replica holds
exactly the appended entries it has (transitively) merged
-/
namespace Model

theorem inv_emptyLog (U : List Entry) (id cid : Bytes) (k : SortKind) : Inv U (emptyLog id cid k) :=
  Inv.of_mem (fun _ h => nomatch h) List.nodup_nil (fun _ h => nomatch h)
    (fun x => by simp [emptyLog]) List.nodup_nil (fun h => by simp [emptyLog, namedBy]) (fun _ h => nomatch h)

theorem inv_setIdentity {U : List Entry} {l : Log} (I : Inv U l) (cid : Bytes) : Inv U (setIdentity l cid) :=
  inv_transfer I rfl (fun _ => .rfl) I.nodup (fun _ => .rfl) I.headsNodup I.nextIdx

theorem rebuild_spec {U : List Entry} (hU : (hashes U).Nodup) {l : Log} (I : Inv U l) (cid : Bytes)
    {ents : List Entry} (wh : Bool)
    (hg : (ents.all (fun e => l.entries.contains e) && l.entries.all (fun e => ents.contains e)) = true) :
    let L := newLog l.id cid l.sortFn ents (if wh then l.heads else [])
    Inv U L ∧ L.id = l.id ∧ (∀ x, x ∈ L.entries ↔ x ∈ l.entries) ∧ (∀ x, x ∈ L.heads ↔ x ∈ l.heads) ∧ L.sortFn = l.sortFn := by
  simp only [Bool.and_eq_true, List.all_eq_true, List.contains_iff_mem] at hg
  obtain ⟨a, b, c, d⟩ := newLog_rebuilds hU I ents (if wh then l.heads else []) cid l.sortFn
    (fun e he => I.inU e (hg.1 e he)) (fun h => ⟨hashes_subset hg.1, hashes_subset hg.2⟩) (by
      cases wh
      · exact Or.inl rfl
      · exact Or.inr ⟨I.headsNodup, fun _ => Iff.rfl⟩)
  exact ⟨a, b, c, d, rfl⟩

theorem upd_same {α : Type} (f : Nat → α) (i : Nat) (v : α) : upd f i v i = v := by simp [upd]
theorem upd_other {α : Type} (f : Nat → α) (i j : Nat) (v : α) (h : j ≠ i) : upd f i v j = f j := by simp [upd, h]

theorem upd_self {α : Type} {f : Nat → α} {i : Nat} {v : α} (h : f i = v) : upd f i v = f :=
  funext fun _ => ite_eq_right_iff.mpr fun hj => hj ▸ h.symm

theorem forall_upd {α : Type} {f : Nat → Option α} {t : Nat} {v : α} {Q : Nat → α → Prop} (hv : Q t v)
    (hf : ∀ r l, r ≠ t → f r = some l → Q r l) : ∀ r l, upd f t (some v) r = some l → Q r l := by
  intro r l hr
  by_cases hrt : r = t
  · rw [hrt, upd_same] at hr
    cases hr
    exact hrt ▸ hv
  · rw [upd_other _ _ _ _ hrt] at hr
    exact hf r l hrt hr

/-- The successful steps: which replica is written, with what, and how the ghost state moves.  A step of
    `Sys.step` is a `Step` (`step_shape`) but not conversely: `joinNop` stands for a join with oneself or with
    a log of another id and does not carry that premise. -/
inductive Step (s : Sys) : Op → Sys → Prop
  | newLog (id cid : Bytes) (k : SortKind) :
      Step s (.newLog id cid k)
        { s with logs := upd s.logs s.n (some (emptyLog id cid k)), know := upd s.know s.n [], n := s.n + 1 }
  | append {r : Nat} {l : Log} (pc : Int) {h : Hash} (tag : Nat) (hl : s.logs r = some l) (hf : h ∉ hashes s.uni) :
      Step s (.append r pc h tag)
        { s with logs := upd s.logs r (some (append l pc h tag).2), know := upd s.know r (s.know r ++ [h]),
                 uni := s.uni ++ [(append l pc h tag).1] }
  | join {r r2 : Nat} {a b : Log} (ha : s.logs r = some a) (hb : s.logs r2 = some b) (hid : a.id = b.id) :
      Step s (.join r r2)
        { s with logs := upd s.logs r (some (joinU a b)), know := upd s.know r (s.know r ++ s.know r2) }
  | joinNop {r r2 : Nat} {a b : Log} (ha : s.logs r = some a) (hb : s.logs r2 = some b) : Step s (.join r r2) s
  | setIdentity {r : Nat} {l : Log} (cid : Bytes) (hl : s.logs r = some l) :
      Step s (.setIdentity r cid) { s with logs := upd s.logs r (some (setIdentity l cid)) }
  | rebuild {src : Nat} {l : Log} (cid : Bytes) {ents : List Entry} (wh : Bool) (hl : s.logs src = some l)
      (hg : (ents.all (fun e => l.entries.contains e) && l.entries.all (fun e => ents.contains e)) = true) :
      Step s (.rebuild src cid ents wh)
        { s with logs := upd s.logs s.n (some (newLog l.id cid l.sortFn ents (if wh then l.heads else []))),
                 know := upd s.know s.n (s.know src), n := s.n + 1 }

theorem step_shape {s s' : Sys} {op : Op} (hstep : s.step op = some s') : Step s op s' := by
  cases op with
  | newLog id cid k => cases hstep; exact .newLog id cid k
  | append r pc h tag =>
    simp only [Sys.step] at hstep
    split at hstep
    · cases hstep
    · rename_i l hl
      split at hstep
      · cases hstep
      · rename_i hc
        cases hstep
        exact .append pc tag hl (fun hm => hc (List.contains_iff_mem.mpr hm))
  | join r r2 =>
    simp only [Sys.step] at hstep
    split at hstep
    · rename_i a b ha hb
      split at hstep
      · cases hstep; exact .joinNop ha hb
      · by_cases hid : a.id = b.id
        · rw [join_eq a b hid, if_pos hid] at hstep
          cases hstep; exact .join ha hb hid
        · rw [join_other_id a b.id b.entries b.heads (-1) _ hid, if_neg hid] at hstep
          cases hstep
          rw [show ({ s with logs := upd s.logs r (some a), know := s.know } : Sys) = s from by rw [upd_self ha]]
          exact .joinNop ha hb
    · cases hstep
  | setIdentity r cid =>
    simp only [Sys.step] at hstep
    split at hstep
    · cases hstep
    · rename_i l hl; cases hstep; exact .setIdentity cid hl
  | rebuild src cid ents wh =>
    simp only [Sys.step] at hstep
    split at hstep
    · cases hstep
    · rename_i l hl
      split at hstep
      · rename_i hg; cases hstep; exact .rebuild cid wh hl hg
      · cases hstep

theorem run_induction {P : Sys → Prop} (hP : ∀ {s s' : Sys} {op : Op}, P s → s.step op = some s' → P s') :
    ∀ (ops : List Op) {s s' : Sys}, P s → s.run ops = some s' → P s'
  | [], s, s', h0, h => by cases h; exact h0
  | op :: ops, s, s', h0, h => by
    simp only [Sys.run] at h
    split at h
    · cases h
    · rename_i s1 hs; exact run_induction hP ops (hP h0 hs) h

structure SysInv (s : Sys) : Prop where
  uni : (hashes s.uni).Nodup
  inv : ∀ r l, s.logs r = some l → Inv s.uni l
  know : ∀ r l, s.logs r = some l → ∀ h, h ∈ s.know r ↔ h ∈ hashes l.entries
  fresh : ∀ r, s.n ≤ r → s.logs r = none

theorem sysInv_init : SysInv Sys.init where
  uni := by simp [Sys.init, hashes]
  inv := by intro r l h; simp [Sys.init] at h
  know := by intro r l h; simp [Sys.init] at h
  fresh := by intro r _; rfl

theorem SysInv.lt_n {s : Sys} (I : SysInv s) {r : Nat} {l : Log} (hl : s.logs r = some l) : r < s.n := by
  refine Nat.lt_of_not_le (fun h => ?_)
  rw [I.fresh r h] at hl; cases hl

theorem SysInv.upd {s : Sys} (I : SysInv s) {t n' : Nat} {l' : Log} {k' : List Hash} {U' : List Entry}
    (hU : (hashes U').Nodup) (hsub : ∀ x ∈ s.uni, x ∈ U') (hl : Inv U' l')
    (hk : ∀ h, h ∈ k' ↔ h ∈ hashes l'.entries) (ht : t < n') (hn : s.n ≤ n') :
    SysInv { logs := upd s.logs t (some l'), know := upd s.know t k', uni := U', n := n' } where
  uni := hU
  inv := forall_upd hl fun r l _ hr => inv_mono_universe hsub (I.inv r l hr)
  know := forall_upd (by dsimp only; rw [upd_same]; exact hk) fun r l hrt hr => by
    dsimp only
    rw [upd_other _ _ _ _ hrt]
    exact I.know r l hr
  fresh := by
    intro r hr
    dsimp only at hr ⊢
    rw [upd_other _ _ _ _ (by omega)]
    exact I.fresh r (by omega)

theorem sysInv_step {s s' : Sys} (I : SysInv s) {op : Op} (hstep : s.step op = some s') : SysInv s' := by
  cases step_shape hstep with
  | newLog id cid k =>
    exact I.upd I.uni (fun _ h => h) (inv_emptyLog _ _ _ _) (by simp [emptyLog, hashes]) (Nat.lt_succ_self _) (Nat.le_succ _)
  | @append r l pc h tag hl hf =>
    have IL := I.inv r l hl
    refine I.upd (nodup_hashes_snoc I.uni hf) (fun _ h => List.mem_append_left _ h) (inv_append IL pc h tag hf) ?_
      (I.lt_n hl) (Nat.le_refl _)
    intro x
    rw [append_entries_of_fresh IL pc h tag hf, hashes_append, List.mem_append, List.mem_append, I.know r l hl x]
    rfl
  | @join r r2 a b ha hb hid =>
    have IA := I.inv r a ha
    have IB := I.inv r2 b hb
    refine I.upd I.uni (fun _ h => h) (inv_join I.uni IA IB hid) ?_ (I.lt_n ha) (Nat.le_refl _)
    intro x
    rw [List.mem_append, I.know r a ha x, I.know r2 b hb x]
    show _ ↔ x ∈ hashes (jEntries a b)
    simp only [mem_hashes, mem_jEntries I.uni IA IB hid, or_and_right, exists_or]
  | joinNop => exact I
  | @setIdentity r l cid hl =>
    rw [← upd_self (f := s.know) (i := r) rfl]
    exact I.upd I.uni (fun _ h => h) (inv_setIdentity (I.inv r l hl) cid) (I.know r l hl) (I.lt_n hl) (Nat.le_refl _)
  | @rebuild src l cid ents wh hl hg =>
    obtain ⟨hInv, _, hE, _, _⟩ := rebuild_spec I.uni (I.inv src l hl) cid wh hg
    refine I.upd I.uni (fun _ h => h) hInv ?_ (Nat.lt_succ_self _) (Nat.le_succ _)
    intro h
    rw [I.know src l hl h]
    simp only [mem_hashes, hE]

theorem reachable_inv {s : Sys} (hr : Reachable s) : SysInv s := by
  obtain ⟨ops, h⟩ := hr
  exact run_induction (fun I h => sysInv_step I h) ops sysInv_init h

theorem reachable_induction {P : Sys → Prop} (h0 : P Sys.init)
    (hP : ∀ {s s' : Sys} {op : Op}, SysInv s → P s → s.step op = some s' → P s') {s : Sys} (hr : Reachable s) : P s := by
  obtain ⟨ops, h⟩ := hr
  exact (run_induction (P := fun s => SysInv s ∧ P s) (fun ⟨I, p⟩ hs => ⟨sysInv_step I hs, hP I p hs⟩) ops
    ⟨sysInv_init, h0⟩ h).2

theorem step_mono {s s' : Sys} (I : SysInv s) {op : Op} (hstep : s.step op = some s') :
    ∀ r l, s.logs r = some l → ∃ l', s'.logs r = some l' ∧ (∀ x ∈ l.entries, x ∈ l'.entries) ∧
      l'.sortFn = l.sortFn ∧ l'.id = l.id := by
  intro r0 l0 hl0
  have key : ∀ {t : Nat} {l' : Log} {k : Nat → List Hash} {U : List Entry} {n : Nat},
      (∀ l, s.logs t = some l → (∀ x ∈ l.entries, x ∈ l'.entries) ∧ l'.sortFn = l.sortFn ∧ l'.id = l.id) →
      ∃ l'', ({ logs := upd s.logs t (some l'), know := k, uni := U, n := n } : Sys).logs r0 = some l'' ∧
        (∀ x ∈ l0.entries, x ∈ l''.entries) ∧ l''.sortFn = l0.sortFn ∧ l''.id = l0.id := by
    intro t l' k U n h
    by_cases hr : r0 = t
    · exact ⟨l', by rw [hr]; exact upd_same _ _ _, h l0 (hr ▸ hl0)⟩
    · exact ⟨l0, by rw [← hl0]; exact upd_other _ _ _ _ hr, fun _ h => h, rfl, rfl⟩
  cases step_shape hstep with
  | joinNop => exact ⟨l0, hl0, fun _ h => h, rfl, rfl⟩
  | newLog id cid k => exact key fun l hl => absurd (I.lt_n hl) (Nat.lt_irrefl _)
  | rebuild cid wh hl hg => exact key fun l hl => absurd (I.lt_n hl) (Nat.lt_irrefl _)
  | setIdentity cid hl =>
    refine key fun l h => ?_
    cases hl.symm.trans h
    exact ⟨fun _ h => h, rfl, rfl⟩
  | @append r l pc h tag hl hf =>
    refine key fun l' h' => ?_
    cases hl.symm.trans h'
    exact ⟨fun x hx => by rw [append_entries_of_fresh (I.inv r l hl) pc h tag hf]; exact List.mem_append_left _ hx, rfl, rfl⟩
  | @join r r2 a b ha hb hid =>
    refine key fun l' h' => ?_
    cases ha.symm.trans h'
    exact ⟨fun x hx => (mem_jEntries I.uni (I.inv r a ha) (I.inv r2 b hb) hid).mpr (Or.inl hx), rfl, rfl⟩

theorem step_uni {s s' : Sys} {op : Op} (hstep : s.step op = some s') : ∃ t, s'.uni = s.uni ++ t := by
  cases step_shape hstep with
  | append pc tag hl hf => exact ⟨[_], rfl⟩
  | _ => exact ⟨[], (List.append_nil _).symm⟩

end Model
