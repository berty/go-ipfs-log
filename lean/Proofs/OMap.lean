import Proofs.Sort
import Model.Log
/-!
# Proofs.OMap — lemmas on the insertion-ordered maps (`hashes`, `get?`, `has`, `omSet`, `omFromList`, `omMerge`), on hash sets
(`hsSet`, `dedupHashes`), and the count of unmarked hashes that the two worklist loops use as their measure
-/
namespace Model

theorem nodup_snoc {α : Type} {l : List α} {a : α} (h : l.Nodup) (ha : a ∉ l) : (l ++ [a]).Nodup :=
  List.perm_append_comm.nodup_iff.mpr (List.nodup_cons.mpr ⟨ha, h⟩)

theorem filterMap_congr {α β : Type} {f g : α → Option β} {l : List α} (h : ∀ x ∈ l, f x = g x) :
    l.filterMap f = l.filterMap g := by
  induction l with
  | nil => rfl
  | cons a t ih =>
    rw [List.filterMap_cons, List.filterMap_cons, h a List.mem_cons_self, ih fun x hx => h x (List.mem_cons_of_mem _ hx)]

theorem mem_hashes {E : List Entry} {h : Hash} : h ∈ hashes E ↔ ∃ e ∈ E, e.hash = h := List.mem_map

theorem hashes_subset {E F : List Entry} (hs : ∀ e ∈ E, e ∈ F) {h : Hash} (hh : h ∈ hashes E) : h ∈ hashes F :=
  let ⟨e, he, hx⟩ := mem_hashes.mp hh
  mem_hashes.mpr ⟨e, hs e he, hx⟩

theorem nodup_of_hashes_nodup {E : List Entry} (h : (hashes E).Nodup) : E.Nodup :=
  (List.pairwise_map.mp h).imp (fun hne e => hne (congrArg Entry.hash e))

theorem hashes_append (a b : List Entry) : hashes (a ++ b) = hashes a ++ hashes b := List.map_append

theorem nodup_hashes_snoc {U : List Entry} {e : Entry} (hU : (hashes U).Nodup) (hf : e.hash ∉ hashes U) :
    (hashes (U ++ [e])).Nodup :=
  hashes_append U [e] ▸ nodup_snoc hU hf

theorem mem_hashes_goSort (lt : Entry → Entry → Bool) (l : List Entry) (h : Hash) :
    h ∈ hashes (goSort lt l) ↔ h ∈ hashes l :=
  ((goSort_perm lt l).map _).mem_iff

theorem goSort_hashes_nodup (lt : Entry → Entry → Bool) {l : List Entry} (hn : (hashes l).Nodup) :
    (hashes (goSort lt l)).Nodup :=
  ((goSort_perm lt l).map _).nodup_iff.mpr hn

theorem get?_mem {E : List Entry} {h : Hash} {p : Entry} (hg : get? E h = some p) : p ∈ E ∧ p.hash = h :=
  ⟨List.mem_of_find?_eq_some hg, by simpa using List.find?_some hg⟩

theorem get?_eq_of_mem {E : List Entry} (hnd : (hashes E).Nodup) {p : Entry} (hp : p ∈ E) : get? E p.hash = some p := by
  induction E with
  | nil => cases hp
  | cons x xs ih =>
    rw [hashes, List.map_cons, List.nodup_cons] at hnd
    rw [get?, List.find?_cons]
    rcases List.mem_cons.mp hp with rfl | hm
    · simp
    · have : (x.hash == p.hash) = false := beq_false_of_ne fun e => hnd.1 (e ▸ List.mem_map_of_mem hm)
      rw [this]
      exact ih hnd.2 hm

theorem eq_of_hash_eq {U : List Entry} (hU : (hashes U).Nodup) {a b : Entry} (ha : a ∈ U) (hb : b ∈ U)
    (h : a.hash = b.hash) : a = b :=
  Option.some.inj ((get?_eq_of_mem hU ha).symm.trans (h ▸ get?_eq_of_mem hU hb))

theorem has_iff {E : List Entry} {h : Hash} : has E h = true ↔ ∃ e ∈ E, e.hash = h := by
  simp [has]

theorem has_false_iff {E : List Entry} {h : Hash} : has E h = false ↔ ∀ e ∈ E, e.hash ≠ h := by
  simp [has]

theorem has_iff_mem_hashes {E : List Entry} {h : Hash} : has E h = true ↔ h ∈ hashes E :=
  has_iff.trans mem_hashes.symm

theorem has_false_iff_not_mem {E : List Entry} {h : Hash} : has E h = false ↔ h ∉ hashes E := by
  rw [← has_iff_mem_hashes, Bool.not_eq_true]

theorem has_of_mem {E : List Entry} {e : Entry} (he : e ∈ E) : has E e.hash = true :=
  has_iff.mpr ⟨e, he, rfl⟩

theorem has_eq_isSome (E : List Entry) (h : Hash) : has E h = (get? E h).isSome :=
  Bool.eq_iff_iff.mpr (List.any_eq_true.trans List.find?_isSome.symm)

theorem get?_none_iff {E : List Entry} {h : Hash} : get? E h = none ↔ has E h = false :=
  List.find?_eq_none.trans List.any_eq_false.symm

theorem get?_none {E : List Entry} {h : Hash} (hg : get? E h = none) : h ∉ hashes E :=
  has_false_iff_not_mem.mp (get?_none_iff.mp hg)

theorem get?_append (E F : List Entry) (h : Hash) : get? (E ++ F) h = (get? E h).or (get? F h) :=
  List.find?_append

theorem get?_append_right {E F : List Entry} {h : Hash} (hn : has E h = false) :
    get? (E ++ F) h = get? F h := by
  rw [get?_append, get?_none_iff.mpr hn, Option.none_or]

theorem has_append {E F : List Entry} {h : Hash} : has (E ++ F) h = (has E h || has F h) :=
  List.any_append

theorem mem_of_has {U L : List Entry} (hU : (hashes U).Nodup) (hL : ∀ y ∈ L, y ∈ U) {x : Entry} (hx : x ∈ U)
    (h : has L x.hash = true) : x ∈ L := by
  obtain ⟨y, hy, hyh⟩ := has_iff.mp h
  exact eq_of_hash_eq hU (hL y hy) hx hyh ▸ hy

theorem mem_iff_of_hashes {U L M : List Entry} (hU : (hashes U).Nodup) (hL : ∀ y ∈ L, y ∈ U) (hM : ∀ y ∈ M, y ∈ U)
    (h : ∀ h, h ∈ hashes L ↔ h ∈ hashes M) (x : Entry) : x ∈ L ↔ x ∈ M :=
  ⟨fun hx => mem_of_has hU hM (hL x hx) (has_iff_mem_hashes.mpr ((h _).mp (List.mem_map_of_mem hx))),
    fun hx => mem_of_has hU hL (hM x hx) (has_iff_mem_hashes.mpr ((h _).mpr (List.mem_map_of_mem hx)))⟩

theorem omSet_of_has {E : List Entry} {e : Entry} (h : has E e.hash = true) : omSet E e = E :=
  if_pos h

theorem omSet_of_not_has {E : List Entry} {e : Entry} (h : has E e.hash = false) : omSet E e = E ++ [e] :=
  if_neg (Bool.eq_false_iff.mp h)

theorem mem_omSet {E : List Entry} {e x : Entry} :
    x ∈ omSet E e ↔ x ∈ E ∨ (x = e ∧ has E e.hash = false) := by
  cases hh : has E e.hash with
  | true => rw [omSet_of_has hh]; simp
  | false => rw [omSet_of_not_has hh]; simp

theorem subset_omSet {E : List Entry} {e x : Entry} (hx : x ∈ E) : x ∈ omSet E e :=
  mem_omSet.mpr (Or.inl hx)

theorem has_omSet {E : List Entry} {e : Entry} {h : Hash} :
    has (omSet E e) h = (has E h || e.hash == h) := by
  cases hh : has E e.hash with
  | true =>
    rw [omSet_of_has hh]
    by_cases he : e.hash = h
    · simp [← he, hh]
    · simp [he]
  | false =>
    rw [omSet_of_not_has hh, has_append]
    simp [has]

theorem prefix_omSet (E : List Entry) (e : Entry) : E <+: omSet E e := by
  unfold omSet
  split
  · exact List.prefix_rfl
  · exact List.prefix_append _ _

theorem length_omSet_le (E : List Entry) (e : Entry) : (omSet E e).length ≤ E.length + 1 := by
  unfold omSet
  split <;> simp

theorem pairwise_omSet {R : Entry → Entry → Prop} {E : List Entry} {e : Entry} (h : E.Pairwise R)
    (he : has E e.hash = false → ∀ a ∈ E, R a e) : (omSet E e).Pairwise R := by
  cases hh : has E e.hash with
  | true => rw [omSet_of_has hh]; exact h
  | false =>
    rw [omSet_of_not_has hh]
    exact List.pairwise_append.mpr ⟨h, List.pairwise_singleton _ _, fun a ha b hb => List.mem_singleton.mp hb ▸ he hh a ha⟩

theorem nodup_omSet {E : List Entry} {e : Entry} (hnd : (hashes E).Nodup) : (hashes (omSet E e)).Nodup :=
  List.pairwise_map.mpr (pairwise_omSet (List.pairwise_map.mp hnd) has_false_iff.mp)

theorem entries_nodup_omSet {E : List Entry} {e : Entry} (h : E.Nodup) : (omSet E e).Nodup :=
  pairwise_omSet h fun hh a ha hae => has_false_iff.mp hh a ha (congrArg Entry.hash hae)

theorem omSet_cases {U : List Entry} (hU : (hashes U).Nodup) {E : List Entry} {e : Entry}
    (hE : ∀ r ∈ E, r ∈ U) (he : e ∈ U) : (e ∈ E ∧ omSet E e = E) ∨ (e ∉ E ∧ omSet E e = E ++ [e]) := by
  cases hh : has E e.hash with
  | false => exact Or.inr ⟨fun hm => (by rw [has_of_mem hm] at hh; cases hh), omSet_of_not_has hh⟩
  | true => exact Or.inl ⟨mem_of_has hU hE he hh, omSet_of_has hh⟩

theorem foldl_omSet_nodup (l E : List Entry) (h : (hashes E).Nodup) : (hashes (l.foldl omSet E)).Nodup :=
  List.foldlRecOn l omSet (motive := fun b => (hashes b).Nodup) h fun _ hb _ _ => nodup_omSet hb

theorem omFromList_nodup (l : List Entry) : (hashes (omFromList l)).Nodup :=
  foldl_omSet_nodup l [] List.nodup_nil

theorem foldl_omSet_subset (l E : List Entry) (x : Entry) (h : x ∈ E) : x ∈ l.foldl omSet E :=
  List.foldlRecOn l omSet (motive := (x ∈ ·)) h fun _ hb _ _ => subset_omSet hb

theorem mem_foldl_omSet (l E : List Entry) (x : Entry) : x ∈ l.foldl omSet E → x ∈ E ∨ x ∈ l :=
  List.foldlRecOn l omSet (motive := fun b => x ∈ b → x ∈ E ∨ x ∈ l) Or.inl fun _ ih _ ha h =>
    (mem_omSet.mp h).elim ih fun ⟨e, _⟩ => Or.inr (e ▸ ha)

theorem has_foldl_omSet (l : List Entry) : ∀ (E : List Entry) (h : Hash),
    has (l.foldl omSet E) h = (has E h || has l h) := by
  induction l with
  | nil => simp [has]
  | cons y ys ih =>
    intro E h
    rw [List.foldl_cons, ih, has_omSet]
    simp [has, Bool.or_assoc]

theorem hash_mem_foldl_omSet (N : List Entry) (E : List Entry) {x : Entry} (hx : x ∈ N) :
    x.hash ∈ hashes (N.foldl omSet E) :=
  has_iff_mem_hashes.mp (by rw [has_foldl_omSet, has_of_mem hx, Bool.or_true])

theorem foldl_omSet_eq_append (l : List Entry) : ∀ (E : List Entry),
    (∀ x ∈ l, has E x.hash = false) → (hashes l).Nodup → l.foldl omSet E = E ++ l := by
  induction l with
  | nil => simp
  | cons y ys ih =>
    intro E hnew hnd
    rw [hashes, List.map_cons, List.nodup_cons] at hnd
    rw [List.foldl_cons, omSet_of_not_has (hnew y List.mem_cons_self), ih _ ?_ hnd.2, List.append_assoc]
    · rfl
    · intro x hx
      have : y.hash ≠ x.hash := fun e => hnd.1 (e ▸ List.mem_map_of_mem hx)
      rw [has_append, hnew x (List.mem_cons_of_mem _ hx)]
      simp [has, this]

theorem omFromList_eq_self {l : List Entry} (hnd : (hashes l).Nodup) : omFromList l = l := by
  rw [omFromList, foldl_omSet_eq_append l [] (fun _ _ => rfl) hnd]
  rfl

theorem mem_omFromList {l : List Entry} {x : Entry} (h : x ∈ omFromList l) : x ∈ l :=
  (mem_foldl_omSet l [] x h).resolve_left List.not_mem_nil

theorem has_omFromList {l : List Entry} {h : Hash} : has (omFromList l) h = has l h := by
  rw [omFromList, has_foldl_omSet]; simp [has]

theorem mem_hashes_omFromList (l : List Entry) (h : Hash) : h ∈ hashes (omFromList l) ↔ h ∈ hashes l := by
  rw [← has_iff_mem_hashes, has_omFromList, has_iff_mem_hashes]

theorem mem_omFromList_iff {E : List Entry} (hnd : (hashes E).Nodup) {start : List Entry}
    (hin : ∀ x ∈ start, x ∈ E) {x : Entry} : x ∈ omFromList start ↔ x ∈ start :=
  ⟨mem_omFromList, fun hx => mem_of_has hnd (fun y hy => hin y (mem_omFromList hy)) (hin x hx)
    (by rw [has_omFromList]; exact has_of_mem hx)⟩

theorem mem_omMerge {a b : List Entry} {x : Entry} (h : x ∈ omMerge a b) : x ∈ a ∨ x ∈ b :=
  (mem_foldl_omSet b _ x h).imp_left fun h1 => (mem_foldl_omSet a [] x h1).resolve_left List.not_mem_nil

theorem omMerge_nodup (a b : List Entry) : (hashes (omMerge a b)).Nodup :=
  foldl_omSet_nodup b _ (foldl_omSet_nodup a [] List.nodup_nil)

theorem has_omMerge {a b : List Entry} {h : Hash} : has (omMerge a b) h = (has a h || has b h) := by
  rw [omMerge, has_foldl_omSet, has_foldl_omSet]
  simp [has]

theorem mem_omMerge_iff {U a b : List Entry} (hU : (hashes U).Nodup) (ha : ∀ x ∈ a, x ∈ U) (hb : ∀ x ∈ b, x ∈ U)
    {x : Entry} : x ∈ omMerge a b ↔ x ∈ a ∨ x ∈ b := by
  have hin : ∀ m, m ∈ a ∨ m ∈ b → m ∈ U := fun m hm => hm.elim (ha m) (hb m)
  refine ⟨mem_omMerge, fun hx => mem_of_has hU (fun m hm => hin m (mem_omMerge hm)) (hin x hx) ?_⟩
  rw [has_omMerge, Bool.or_eq_true]
  exact hx.imp has_of_mem has_of_mem

/-! ## sets kept in insertion order: a key goes to the end unless it is there (`hsSet`; the key slice of `OMapRep`) -/

theorem nodup_ite_snoc {α : Type} [BEq α] [LawfulBEq α] {l : List α} (h : l.Nodup) (k : α) :
    (if k ∈ l then l else l ++ [k]).Nodup := by
  split
  · exact h
  · exact nodup_snoc h ‹k ∉ l›

theorem mem_ite_snoc {α : Type} [BEq α] [LawfulBEq α] {l : List α} {k x : α} :
    x ∈ (if k ∈ l then l else l ++ [k]) ↔ x ∈ l ∨ x = k := by
  split
  · exact ⟨Or.inl, fun h => h.elim id (fun e => e ▸ ‹k ∈ l›)⟩
  · rw [List.mem_append, List.mem_singleton]

theorem mem_hsSet {s : List Hash} {h x : Hash} : x ∈ hsSet s h ↔ x ∈ s ∨ x = h := by
  simp only [hsSet, List.contains_iff_mem]
  exact mem_ite_snoc

theorem nodup_hsSet {s : List Hash} {h : Hash} (hs : s.Nodup) : (hsSet s h).Nodup := by
  simp only [hsSet, List.contains_iff_mem]
  exact nodup_ite_snoc hs h

theorem mem_foldl_hsSet (l : List Hash) : ∀ (s : List Hash) (x : Hash), x ∈ l.foldl hsSet s ↔ x ∈ s ∨ x ∈ l := by
  induction l with
  | nil => simp
  | cons y ys ih => simp [ih, mem_hsSet, or_assoc]

theorem dedupHashes_eq_foldl (l : List Hash) : ∀ (acc : List Hash), dedupHashes l acc = l.foldl hsSet acc := by
  induction l with
  | nil => intro acc; rfl
  | cons h t ih =>
    intro acc
    rw [dedupHashes, List.foldl_cons, hsSet]
    split <;> exact ih _

theorem mem_dedupHashes (l acc : List Hash) (x : Hash) : x ∈ dedupHashes l acc ↔ x ∈ acc ∨ x ∈ l :=
  dedupHashes_eq_foldl l acc ▸ mem_foldl_hsSet l acc x

theorem dedupHashes_nodup (l acc : List Hash) (h : acc.Nodup) : (dedupHashes l acc).Nodup :=
  dedupHashes_eq_foldl l acc ▸ List.foldlRecOn l hsSet h fun _ hb _ _ => nodup_hsSet hb

theorem dedupHashes_length_le (l : List Hash) : (dedupHashes l []).length ≤ l.length :=
  (dedupHashes_nodup l [] List.nodup_nil).length_le_of_subset fun h hh =>
    ((mem_dedupHashes l [] h).mp hh).resolve_left nofun

theorem dedupHashes_eq_self (l : List Hash) : ∀ (acc : List Hash), (acc ++ l).Nodup → dedupHashes l acc = acc ++ l := by
  induction l with
  | nil => simp [dedupHashes]
  | cons h hs ih =>
    intro acc hnd
    have hnot : h ∉ acc := fun hm => (List.nodup_append.mp hnd).2.2 h hm h List.mem_cons_self rfl
    rw [dedupHashes, if_neg (by simpa using hnot), ih (acc ++ [h]) (by simpa using hnd)]
    simp

theorem countP_lt_countP {α : Type} {p q : α → Bool} {a : α} {l : List α} (h : ∀ x ∈ l, q x = true → p x = true)
    (ha : a ∈ l) (hp : p a = true) (hq : q a = false) : l.countP q < l.countP p := by
  obtain ⟨s, t, rfl⟩ := List.append_of_mem ha
  have hs : s.countP q ≤ s.countP p := List.countP_mono_left fun x hx => h x (List.mem_append_left _ hx)
  have ht : t.countP q ≤ t.countP p :=
    List.countP_mono_left fun x hx => h x (List.mem_append_right _ (List.mem_cons_of_mem _ hx))
  rw [List.countP_append, List.countP_append, List.countP_cons_of_pos hp, List.countP_cons_of_neg (by simp [hq])]
  omega

def unmarked (L : List Hash) (t : List Hash) : Nat := L.countP (fun c => !t.contains c)

theorem not_contains_of_subset {t t' : List Hash} (hs : ∀ x ∈ t, x ∈ t') {x : Hash} (h : (!t'.contains x) = true) :
    (!t.contains x) = true := by
  simp only [Bool.not_eq_true', List.contains_eq_mem, decide_eq_false_iff_not] at h ⊢
  exact fun hm => h (hs x hm)

theorem unmarked_mono (L : List Hash) {t t' : List Hash} (hs : ∀ x ∈ t, x ∈ t') : unmarked L t' ≤ unmarked L t :=
  List.countP_mono_left fun _ _ => not_contains_of_subset hs

theorem unmarked_cons_lt (L : List Hash) (t : List Hash) (c : Hash) (hc : c ∈ L) (hn : c ∉ t) :
    unmarked L (c :: t) < unmarked L t :=
  countP_lt_countP (fun _ _ => not_contains_of_subset fun _ => List.mem_cons_of_mem _) hc (by simpa using hn) (by simp)

theorem unmarked_append_le (L : List Hash) (t : List Hash) : ∀ (hs : List Hash), hs.Nodup →
    (∀ h ∈ hs, h ∈ L ∧ h ∉ t) → hs.length + unmarked L (hs ++ t) ≤ unmarked L t
  | [], _, _ => by simp
  | h :: hs, hnd, hh => by
    have ih := unmarked_append_le L t hs (List.nodup_cons.mp hnd).2 (fun x hx => hh x (List.mem_cons_of_mem _ hx))
    have := unmarked_cons_lt L (hs ++ t) h (hh h List.mem_cons_self).1
      (fun hm => (List.mem_append.mp hm).elim (List.nodup_cons.mp hnd).1 (hh h List.mem_cons_self).2)
    simp only [List.length_cons, List.cons_append]
    omega
end Model
