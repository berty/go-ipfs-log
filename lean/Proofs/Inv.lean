import Proofs.Traverse
import Model.Spec
/-!
# Proofs.Inv — the structural invariant of a replica, `findHeads`, and "every entry lies below a head"

`Inv` is what `Append`, the unbounded `Join` (both add entries: `Inv.extend`) and `NewLog` on a replica's entries
preserve (Proofs/Append, Join, Rebuild); everything the property files say about heads and values of a reachable
replica follows from it.
-/
namespace Model

def namedBy (E : List Entry) (h : Hash) : Prop := ∃ e ∈ E, h ∈ e.next

/-- The invariant of a replica reached by appends and unbounded joins.  `U` is the universe of all
    entries ever created (one per hash: content addressing). -/
structure Inv (U : List Entry) (l : Log) : Prop where
  inU : ∀ e ∈ l.entries, e ∈ U
  nodup : (hashes l.entries).Nodup
  closed : ∀ e ∈ l.entries, ∀ n ∈ e.next, has l.entries n = true
  mono : ∀ e ∈ l.entries, ∀ c ∈ e.next, ∀ p, get? l.entries c = some p → p.clock.time < e.clock.time
  headsIn : ∀ h ∈ l.heads, h ∈ l.entries
  headsNodup : (hashes l.heads).Nodup
  headsSpec : ∀ e ∈ l.entries, ¬ namedBy l.entries e.hash → e ∈ l.heads
  headsUnref : ∀ h ∈ l.heads, ¬ namedBy l.entries h.hash
  nextIdx : ∀ h, h ∈ l.nextIdx ↔ namedBy l.entries h
  logId : ∀ e ∈ l.entries, e.logId = l.id

theorem referenced_iff {E : List Entry} {h : Hash} : referenced E h = true ↔ namedBy E h := by
  simp [referenced, namedBy]

theorem namedBy_mono {E F : List Entry} {h : Hash} (hs : ∀ e ∈ E, e ∈ F) (hn : namedBy E h) : namedBy F h :=
  let ⟨e, he, hc⟩ := hn
  ⟨e, hs e he, hc⟩

theorem namedBy_congr {E F : List Entry} (h : ∀ x, x ∈ E ↔ x ∈ F) {c : Hash} : namedBy E c ↔ namedBy F c :=
  ⟨namedBy_mono fun e => (h e).mp, namedBy_mono fun e => (h e).mpr⟩

theorem namedBy_append {E F : List Entry} {h : Hash} : namedBy (E ++ F) h ↔ namedBy E h ∨ namedBy F h := by
  simp only [namedBy, List.mem_append, or_and_right, exists_or]

theorem Inv.mem_heads {U : List Entry} {l : Log} (I : Inv U l) {x : Entry} :
    x ∈ l.heads ↔ x ∈ l.entries ∧ ¬ namedBy l.entries x.hash :=
  ⟨fun hx => ⟨I.headsIn x hx, I.headsUnref x hx⟩, fun h => I.headsSpec x h.1 h.2⟩

theorem heads_fn_of_set {U : List Entry} {a b : Log} (Ia : Inv U a) (Ib : Inv U b)
    (hE : ∀ x, x ∈ a.entries ↔ x ∈ b.entries) : ∀ x, x ∈ a.heads ↔ x ∈ b.heads := fun x => by
  rw [Ia.mem_heads, Ib.mem_heads, hE, namedBy_congr hE]

theorem Inv.time_lt {U : List Entry} {l : Log} (I : Inv U l) {e p : Entry} (he : e ∈ l.entries) (hp : p ∈ l.entries)
    (hc : p.hash ∈ e.next) : p.clock.time < e.clock.time :=
  I.mono e he p.hash hc p (get?_eq_of_mem I.nodup hp)

/-- `closed` and `mono` in one statement, which stays true of an entry when the log gains entries -/
theorem Inv.pred {U : List Entry} {l : Log} (I : Inv U l) {e : Entry} (he : e ∈ l.entries) {n : Hash} (hn : n ∈ e.next) :
    ∃ p ∈ l.entries, p.hash = n ∧ p.clock.time < e.clock.time :=
  let ⟨p, hp, hpn⟩ := has_iff.mp (I.closed e he n hn)
  ⟨p, hp, hpn, I.time_lt he hp (hpn ▸ hn)⟩

theorem Inv.of_mem {U : List Entry} {l : Log} (inU : ∀ e ∈ l.entries, e ∈ U) (nodup : (hashes l.entries).Nodup)
    (pred : ∀ e ∈ l.entries, ∀ n ∈ e.next, ∃ p ∈ l.entries, p.hash = n ∧ p.clock.time < e.clock.time)
    (heads : ∀ x, x ∈ l.heads ↔ x ∈ l.entries ∧ ¬ namedBy l.entries x.hash) (headsNodup : (hashes l.heads).Nodup)
    (nextIdx : ∀ h, h ∈ l.nextIdx ↔ namedBy l.entries h) (logId : ∀ e ∈ l.entries, e.logId = l.id) : Inv U l where
  inU := inU
  nodup := nodup
  closed := fun e he n hn =>
    let ⟨p, hp, hpn, _⟩ := pred e he n hn
    has_iff.mpr ⟨p, hp, hpn⟩
  mono := fun e he c hc p hg => by
    obtain ⟨q, hq, hqc, hlt⟩ := pred e he c hc
    rwa [eq_of_hash_eq nodup hq (get?_mem hg).1 (hqc.trans (get?_mem hg).2.symm)] at hlt
  headsIn := fun h hh => ((heads h).mp hh).1
  headsNodup := headsNodup
  headsSpec := fun e he hn => (heads e).mpr ⟨he, hn⟩
  headsUnref := fun h hh => ((heads h).mp hh).2
  nextIdx := nextIdx
  logId := logId

theorem inv_mono_universe {U U' : List Entry} {l : Log} (hs : ∀ x ∈ U, x ∈ U') (I : Inv U l) : Inv U' l :=
  { I with inU := fun e he => hs e (I.inU e he) }

/-- The log gains entries `N` whose predecessors it then holds, as older entries.  The heads must be the old heads
    and what `N` leaves unnamed, less what is now named. -/
theorem Inv.extend {U U' : List Entry} {l l' : Log} {N : List Entry} (I : Inv U l) (hU : ∀ x ∈ U, x ∈ U')
    (hid : l'.id = l.id) (hE : ∀ x, x ∈ l'.entries ↔ x ∈ l.entries ∨ x ∈ N) (nodup : (hashes l'.entries).Nodup)
    (hN : ∀ x ∈ N, x ∈ U' ∧ x.logId = l.id ∧
      ∀ n ∈ x.next, ∃ p ∈ l'.entries, p.hash = n ∧ p.clock.time < x.clock.time)
    (heads : ∀ x, x ∈ l'.heads ↔ (x ∈ l.heads ∨ x ∈ N ∧ ¬ namedBy N x.hash) ∧ ¬ namedBy l'.entries x.hash)
    (headsNodup : (hashes l'.heads).Nodup) (nextIdx : ∀ h, h ∈ l'.nextIdx ↔ namedBy l'.entries h) : Inv U' l' := by
  have hl : ∀ x ∈ l.entries, x ∈ l'.entries := fun x hx => (hE x).mpr (Or.inl hx)
  have hn : ∀ x ∈ N, x ∈ l'.entries := fun x hx => (hE x).mpr (Or.inr hx)
  refine Inv.of_mem ?inU nodup ?pred (fun x => ?heads) headsNodup nextIdx ?logId
  case inU => exact fun x hx => ((hE x).mp hx).elim (fun h => hU x (I.inU x h)) fun h => (hN x h).1
  case logId => exact fun x hx => hid ▸ ((hE x).mp hx).elim (I.logId x) fun h => (hN x h).2.1
  case pred =>
    intro x hx
    exact ((hE x).mp hx).elim (fun h n hn => (I.pred h hn).imp fun p hp => ⟨hl p hp.1, hp.2⟩) fun h => (hN x h).2.2
  case heads =>
    -- an entry that nothing in the new log names is unnamed in the part it comes from
    rw [heads, I.mem_heads]
    refine and_congr_left fun hnn => ⟨fun hx => hx.elim (fun h => hl x h.1) fun h => hn x h.1, fun hx => ?_⟩
    exact ((hE x).mp hx).imp (fun h => ⟨h, fun hm => hnn (namedBy_mono hl hm)⟩) fun h => ⟨h, fun hm => hnn (namedBy_mono hn hm)⟩

theorem mem_foldl_next (E : List Entry) (init : List Hash) (h : Hash) :
    h ∈ E.foldl (fun acc e => acc ++ e.next) init ↔ h ∈ init ∨ namedBy E h := by
  rw [List.foldl_append_eq_append, ← List.flatMap_def, List.mem_append, List.mem_flatMap]
  rfl

theorem mem_foldl_nextIdx (N : List Entry) : ∀ (idx : List Hash) (h : Hash),
    h ∈ N.foldl (fun idx e => e.next.foldl hsSet idx) idx ↔ h ∈ idx ∨ namedBy N h := by
  induction N with
  | nil => simp [namedBy]
  | cons x xs ih =>
    intro idx h
    rw [List.foldl_cons, ih, mem_foldl_hsSet]
    simp [namedBy, or_assoc]

theorem mem_findHeads {E : List Entry} {x : Entry} : x ∈ findHeads E ↔ x ∈ E ∧ ¬ namedBy E x.hash := by
  simp only [findHeads, mem_goSort, List.mem_filter, Bool.not_eq_true', List.contains_eq_mem, decide_eq_false_iff_not,
    mem_foldl_next, List.not_mem_nil, false_or]

theorem findHeads_nodup {E : List Entry} (hnd : (hashes E).Nodup) : (hashes (findHeads E)).Nodup :=
  goSort_hashes_nodup _ ((List.filter_sublist.map _).nodup hnd)

theorem maxTime_ge_default (l : List Entry) : ∀ (d : Int), d ≤ maxTime l d := by
  induction l with
  | nil => exact fun d => Int.le_refl d
  | cons y ys ih => exact fun d => Int.le_trans (Int.le_max_right _ _) (ih _)

theorem le_maxTime (l : List Entry) : ∀ (d : Int) (e : Entry), e ∈ l → e.clock.time ≤ maxTime l d := by
  induction l with
  | nil => exact fun _ _ he => nomatch he
  | cons x xs ih =>
    intro d e he
    rcases List.mem_cons.mp he with rfl | hm
    · exact Int.le_trans (Int.le_max_left _ d) (maxTime_ge_default xs _)
    · exact ih _ e hm

theorem maxTime_cases (l : List Entry) : ∀ (d : Int), maxTime l d = d ∨ ∃ e ∈ l, maxTime l d = e.clock.time := by
  unfold maxTime
  induction l with
  | nil => intro d; exact Or.inl rfl
  | cons y ys ih =>
    intro d
    rw [List.foldl_cons]
    rcases ih (max y.clock.time d) with h | ⟨e, he, h⟩
    · rw [h]
      by_cases hc : y.clock.time ≤ d
      · left; exact Int.max_eq_right hc
      · right; exact ⟨y, by simp, Int.max_eq_left (by omega)⟩
    · right; exact ⟨e, List.mem_cons_of_mem _ he, h⟩

theorem every_entry_below_some_head {U : List Entry} {l : Log} (I : Inv U l) (e : Entry) (he : e ∈ l.entries) :
    ∃ h ∈ l.heads, Desc l.entries h e := by
  -- an entry is a head or is named by an entry with a larger clock time (`hlt`, for the termination proof)
  by_cases hnamed : namedBy l.entries e.hash
  · obtain ⟨e', he', hc⟩ := hnamed
    have hg : get? l.entries e.hash = some e := get?_eq_of_mem I.nodup he
    have hlt := I.mono e' he' e.hash hc e hg
    obtain ⟨h, hh, hd⟩ := every_entry_below_some_head I e' he'
    exact ⟨h, hh, hd.step hc hg⟩
  · exact ⟨e, I.headsSpec e he hnamed, Desc.refl e he⟩
termination_by (maxTime l.entries 0 - e.clock.time).toNat
decreasing_by
  have := le_maxTime l.entries 0 e' he'
  omega

theorem Desc.time_le {U : List Entry} {l : Log} (I : Inv U l) {a b : Entry} (h : Desc l.entries a b) :
    b.clock.time ≤ a.clock.time := by
  induction h with
  | refl _ => exact Int.le_refl _
  | step hd hc hg ih =>
    have := I.mono _ hd.mem_right _ hc _ hg
    omega

theorem heads_nonempty {U : List Entry} {l : Log} (I : Inv U l) (hne : l.entries ≠ []) : l.heads ≠ [] := by
  obtain ⟨e, he⟩ := List.exists_mem_of_ne_nil _ hne
  obtain ⟨h, hh, _⟩ := every_entry_below_some_head I e he
  exact List.ne_nil_of_mem hh

theorem time_le_maxTime_heads {U : List Entry} {l : Log} (I : Inv U l) (e : Entry) (he : e ∈ l.entries) (d : Int) :
    e.clock.time ≤ maxTime l.heads d := by
  obtain ⟨h, hh, hd⟩ := every_entry_below_some_head I e he
  exact Int.le_trans (hd.time_le I) (le_maxTime l.heads d h hh)

end Model
