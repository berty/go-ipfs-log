import Proofs.AppendRefs
import Proofs.System
import Model.Store
/-!
# Proofs.Store — the block store is causally closed after every prefix of the block writes (C17)

`Sys.uni` is the sequence of entry blocks in the order in which they were written: `Append` writes
the block (`CreateEntryWithIO` → `io.Write`) before it publishes the entry in memory, and nothing
else writes entry blocks.  A crash between two block writes leaves a prefix of that sequence.
-/
namespace Model

def PrefixClosed (U : List Entry) : Prop :=
  ∀ n, ∀ e ∈ U.take n, ∀ h ∈ e.next ++ e.refs, h ∈ hashes (U.take n)

theorem prefixClosed_nil : PrefixClosed [] := fun n e he => by simp at he

theorem prefixClosed_snoc {U : List Entry} {e : Entry} (hU : PrefixClosed U)
    (he : ∀ h ∈ e.next ++ e.refs, h ∈ hashes U) : PrefixClosed (U ++ [e]) := by
  intro n x hx h hh
  by_cases hn : n ≤ U.length
  · rw [List.take_append_of_le_length hn] at hx ⊢
    exact hU n x hx h hh
  · -- the whole sequence: an old block is closed in `U`, the new one by hypothesis
    rw [List.take_of_length_le (by simp; omega)] at hx ⊢
    refine hashes_subset (fun y hy => List.mem_append_left _ hy) ?_
    rcases List.mem_append.mp hx with hx | hx
    · have := hU U.length x (by rw [List.take_length]; exact hx) h hh
      rwa [List.take_length] at this
    · exact he h (List.mem_singleton.mp hx ▸ hh)

theorem append_links_in_store {U : List Entry} {l : Log} (I : Inv U l) (pc : Int) (h : Hash) (tag : Nat) :
    ∀ c ∈ (append l pc h tag).1.next ++ (append l pc h tag).1.refs, c ∈ hashes U := by
  intro c hc
  refine hashes_subset I.inU ?_
  rcases List.mem_append.mp hc with hc | hc
  · exact hashes_subset I.headsIn ((mem_appendPlan_next l pc).mp hc)
  · exact ((appendPlan_refs I pc).1 c hc).1

theorem prefixClosed_step {s s' : Sys} (I : SysInv s) (hc : PrefixClosed s.uni) {op : Op}
    (hstep : s.step op = some s') : PrefixClosed s'.uni := by
  cases step_shape hstep with
  | append pc tag hl hf => exact prefixClosed_snoc hc (append_links_in_store (I.inv _ _ hl) pc _ tag)
  | _ => exact hc

theorem closedWrites_sound : ∀ (rest : List Entry) (seen : List Hash), closedWrites seen rest = true →
    ∀ n, ∀ e ∈ rest.take n, ∀ h ∈ e.next ++ e.refs, h ∈ seen ∨ h ∈ hashes (rest.take n)
  | [], _, _, n, e, he, _, _ => by simp at he
  | x :: rest, seen, hc, n, e, he, h, hh => by
    rw [closedWrites, Bool.and_eq_true, List.all_eq_true] at hc
    cases n with
    | zero => simp at he
    | succ n =>
      rw [List.take_succ_cons] at he ⊢
      rcases List.mem_cons.mp he with rfl | hm
      · exact Or.inl (List.contains_iff_mem.mp (hc.1 h hh))
      · refine (closedWrites_sound rest (seen ++ [x.hash]) hc.2 n e hm h hh).elim (fun h1 => ?_)
          (fun h1 => Or.inr (List.mem_cons_of_mem _ h1))
        exact (List.mem_append.mp h1).imp_right fun h2 => by
          rw [List.mem_singleton.mp h2]; exact List.mem_cons_self

theorem prefixClosedB_sound (U : List Entry) (h : prefixClosedB U = true) : PrefixClosed U :=
  fun n e he c hc => (closedWrites_sound U [] h n e he c hc).resolve_left List.not_mem_nil

end Model
