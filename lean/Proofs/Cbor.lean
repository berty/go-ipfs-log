import Model.Cbor
/-!
# Proofs.Cbor — the decoders invert the encoders

Every parser reads back what `enc` wrote and hands on the rest of the input untouched:
`p… (enc item ++ r) = some (value, r)`, from `pHead_head` (a head with its big-endian argument) upwards.
A struct is read by the field loop.  `pFields_cons` is one turn of it on `encMap ((k, v) :: t)`; `pFields_field` is
that turn for the usual branch of a setter, "parse the value with `p`, store the result".  A round trip
(`entry_roundtrip`, `manifest_roundtrip`, …) is then one line per field, in the order of the atlas.
From `isBytes_nil` on: the encoder emits bytes (`isBytes`); the link encryption needs this of its plaintext.
-/
namespace Model.Cbor
open Model

theorem headInfo_le (n : Nat) : headInfo n ≤ 27 := by
  fun_cases headInfo n
  all_goals omega

theorem byte_split (n d : Nat) : n / d % 256 * d + n % d = n % (d * 256) := by
  rw [Nat.mod_mul, Nat.add_comm, Nat.mul_comm]

/-- the initial byte splits back into major type and additional information -/
theorem initial_byte {m : Nat} (hm : m < 8) {i : Nat} (hi : i < 32) :
    ¬ m * 32 + i ≥ 256 ∧ (m * 32 + i) / 32 = m ∧ (m * 32 + i) % 32 = i := by omega

theorem pHead_head (m n : Nat) (r : Bytes) (hm : m < 8) (hn : n < two64) :
    pHead (head m n ++ r) = some (m, n, r) := by
  unfold head
  -- five cases by the width of the argument; in the first it sits in the initial byte
  fun_cases headArg n
  · simp only [headInfo, pHead, List.cons_append, List.nil_append, initial_byte hm (show n < 32 by omega), ↓reduceIte, *]
  -- the digits recombine from the right by `byte_split` (`omega` needs seconds for the eight-digit sum),
  -- in the last case to `n % 2^64`
  all_goals simp only [headInfo, pHead, List.cons_append, List.nil_append, initial_byte hm, ↓reduceIte, Nat.reduceLT,
    Nat.reduceEqDiff, Nat.add_assoc, byte_split, Nat.reduceMul, Nat.div_add_mod', *]
  exact congrArg (fun x => some (m, x, r)) (Nat.mod_eq_of_lt hn)

theorem isNull_head (m n : Nat) (r : Bytes) (hm : m < 7) : isNull (head m n ++ r) = false := by
  have := headInfo_le n
  simp only [head, List.cons_append, isNull]
  simp
  omega

theorem take_len_append (b r : Bytes) : (b ++ r).take b.length = b := by simp
theorem drop_len_append (b r : Bytes) : (b ++ r).drop b.length = r := by simp

theorem pText_enc (b r : Bytes) (h : b.length < two64) :
    pText (enc (.text b) ++ r) = some (b, r) := by
  simp [pText, enc, pHead_head 3 _ _ (by omega) h]

theorem pUint_enc (n : Nat) (r : Bytes) (h : n < two64) : pUint (enc (.uint n) ++ r) = some (n, r) := by
  simp only [pUint, enc, pHead_head 0 _ _ (by omega) h]

theorem pInt_enc (t : Int) (r : Bytes) (h1 : -9223372036854775808 ≤ t) (h2 : t < 9223372036854775808) :
    pInt (enc (intItem t) ++ r) = some (t, r) := by
  unfold intItem
  split
  · have hn : t.toNat < 9223372036854775808 := by omega
    have e : Int.ofNat t.toNat = t := by simp; omega
    simp only [enc, pInt, pHead_head 0 _ _ (by omega) (Nat.lt_trans hn (by decide)), hn, if_true, e]
  · have hn : (-(t + 1)).toNat < 9223372036854775808 := by omega
    have e : -1 - Int.ofNat (-(t + 1)).toNat = t := by simp; omega
    simp only [enc, pInt, pHead_head 1 _ _ (by omega) (Nat.lt_trans hn (by decide)), hn, if_true, e]

theorem pLink_enc (c r : Bytes) (h : c.length + 1 < two64) :
    pLink (enc (linkItem c) ++ r) = some (c, r) := by
  simp [pLink, linkItem, enc, pHead_head 6 42 _ (by omega) (by decide), pHead_head 2 _ _ (by omega) h]

theorem pLinkList_enc (l : List Bytes) (r : Bytes) (h : ∀ c ∈ l, c.length + 1 < two64) :
    pLinkList l.length (encList (l.map linkItem) ++ r) = some (l, r) := by
  induction l with
  | nil => rfl
  | cons c t ih =>
    simp only [List.map_cons, encList, List.length_cons, pLinkList, List.append_assoc, pLink_enc c _ (h c (by simp)),
      ih (fun x hx => h x (by simp [hx]))]

theorem pLinksOpt_enc (o : Option (List Bytes)) (r : Bytes) (h : linksWf o) :
    pLinksOpt (enc (linksItem o) ++ r) = some (o, r) := by
  cases o with
  | none => rfl
  | some l =>
    simp only [linksItem, enc, List.append_assoc, pLinksOpt, isNull_head 4 _ _ (by omega), List.length_map,
      Bool.false_eq_true, if_false, pHead_head 4 _ _ (by omega) h.1, pLinkList_enc l r h.2]

/-! ## structs: the field loop inverts `encMap` field by field -/

variable {σ : Type} {set : σ → Bytes → Bytes → Option (σ × Bytes)}

section Turn
variable {k : Bytes} {v : Item} {t : List (Bytes × Item)} {s s' : σ} {r : Bytes} {res : Option (σ × Bytes)}

theorem pFields_cons (hset : ∀ r, set s k (enc v ++ r) = some (s', r)) (ht : pFields set t.length s' (encMap t ++ r) = res)
    (hk : k.length < two64 := by decide) :
    pFields set ((k, v) :: t).length s (encMap ((k, v) :: t) ++ r) = res := by
  have := pText_enc k (enc v ++ (encMap t ++ r)) hk
  simp only [enc, List.append_assoc] at this
  simp only [List.length_cons, pFields, encMap, List.append_assoc, this, hset, ht]

/-- `hset`, `hg`: the setter's branch for `k` is "parse with `p`, store"; both hold by unfolding, hence the default proofs -/
theorem pFields_field {α : Type} {p : Bytes → Option (α × Bytes)} {g : α × Bytes → σ × Bytes} {x : α}
    (hp : ∀ r, p (enc v ++ r) = some (x, r)) (ht : pFields set t.length s' (encMap t ++ r) = res)
    (hset : ∀ b, set s k b = (p b).map g := by intros; rfl) (hg : ∀ r, g (x, r) = (s', r) := by intros; rfl)
    (hk : k.length < two64 := by decide) :
    pFields set ((k, v) :: t).length s (encMap ((k, v) :: t) ++ r) = res :=
  pFields_cons (fun r => by rw [hset, hp, Option.map, hg]) ht hk

end Turn

theorem pFields_zero {σ : Type} (set : σ → Bytes → Bytes → Option (σ × Bytes)) (s : σ) (r : Bytes) :
    pFields set 0 s r = some (s, r) := rfl

theorem pStructOpt_null (z : σ) (set : σ → Bytes → Bytes → Option (σ × Bytes)) (r : Bytes) :
    pStructOpt z set (enc .null ++ r) = some (none, r) := rfl

theorem pStructOpt_map {z s : σ} {fs : List (Bytes × Item)} {r : Bytes}
    (hn : fs.length < two64) (h : pFields set fs.length z (encMap fs ++ r) = some (s, r)) :
    pStructOpt z set (enc (.map fs) ++ r) = some (some s, r) := by
  simp only [pStructOpt, enc, List.append_assoc, isNull_head 5 _ _ (by omega), pHead_head 5 _ _ (by omega) hn, h,
    Bool.false_eq_true, if_false]

theorem pClockOpt_enc (o : Option JClock) (r : Bytes) (h : ∀ c, o = some c → c.wf) :
    pStructOpt ({} : JClock) setClock (enc (clockItem o) ++ r) = some (o, r) := by
  cases o with
  | none => exact pStructOpt_null _ _ _
  | some c =>
    obtain ⟨h1, h2, h3⟩ := h c rfl
    refine pStructOpt_map (show 2 < two64 by decide) ?_
    refine pFields_field (pText_enc _ · h1) ?_
    refine pFields_field (pInt_enc _ · h2 h3) ?_
    rfl

theorem pSigOpt_enc (o : Option JSig) (r : Bytes) (h : ∀ c, o = some c → c.wf) :
    pStructOpt ({} : JSig) setSig (enc (sigItem o) ++ r) = some (o, r) := by
  cases o with
  | none => exact pStructOpt_null _ _ _
  | some c =>
    refine pStructOpt_map (show 2 < two64 by decide) ?_
    refine pFields_field (pText_enc _ · (h c rfl).1) ?_
    refine pFields_field (pText_enc _ · (h c rfl).2) ?_
    rfl

theorem pIdentityOpt_enc (o : Option JIdentity) (r : Bytes) (h : ∀ c, o = some c → c.wf) :
    pStructOpt ({} : JIdentity) setIdentity (enc (identityItem o) ++ r) = some (o, r) := by
  cases o with
  | none => exact pStructOpt_null _ _ _
  | some c =>
    obtain ⟨h1, h2, h3, h4⟩ := h c rfl
    refine pStructOpt_map (show 4 < two64 by decide) ?_
    refine pFields_field (pText_enc _ · h1) ?_
    refine pFields_field (pText_enc _ · h3) ?_
    refine pFields_field (pText_enc _ · h2) ?_
    refine pFields_field (pSigOpt_enc _ · h4) ?_
    rfl

/-- a whole block: the field loop has to use up the input (`++ []` is the rest `r` of `pFields_cons`) -/
theorem decodeEntry_map {fs : List (Bytes × Item)} {j : JEntry} (hn : fs.length < two64)
    (h : pFields setEntry fs.length {} (encMap fs ++ []) = some (j, [])) : decodeEntry (enc (.map fs)) = some j := by
  rw [List.append_nil] at h
  simp only [decodeEntry, enc, pHead_head 5 _ _ (by omega) hn, h]

theorem decodeManifest_map {fs : List (Bytes × Item)} {m : JLog} (hn : fs.length < two64)
    (h : pFields setLog fs.length {} (encMap fs ++ []) = some (m, [])) : decodeManifest (enc (.map fs)) = some m := by
  rw [List.append_nil] at h
  simp only [decodeManifest, enc, pHead_head 5 _ _ (by omega) hn, h]

theorem entry_roundtrip (j : JEntry) (h : j.wf) : decodeEntry (cborEntry j) = some j := by
  obtain ⟨hv, hid, hkey, hsig, hnext, hrefs, hclock, hpay, hidn, hel, hen⟩ := h
  -- with `j` taken apart, an omitted field can be replaced by `[]` and the decoded struct is `j` itself
  cases j
  refine decodeEntry_map ?_ ?_
  · rw [List.length_append]
    unfold encLinksFields
    split <;> split <;> simp [two64]
  refine pFields_field (pUint_enc _ · hv) ?_
  refine pFields_field (pText_enc _ · hid) ?_
  refine pFields_field (pText_enc _ · hkey) ?_
  refine pFields_field (pText_enc _ · hsig) ?_
  refine pFields_cons (fun _ => rfl) ?_
  refine pFields_field (pLinksOpt_enc _ · hnext) ?_
  refine pFields_field (pLinksOpt_enc _ · hrefs) ?_
  refine pFields_field (pClockOpt_enc _ · hclock) ?_
  refine pFields_field (pText_enc _ · hpay) ?_
  refine pFields_field (pIdentityOpt_enc _ · hidn) ?_
  unfold encLinksFields
  split <;> split
  · subst_vars
    rfl
  · subst_vars
    exact pFields_field (pText_enc _ · hen) rfl
  · subst_vars
    exact pFields_field (pText_enc _ · hel) rfl
  · refine pFields_field (pText_enc _ · hel) ?_
    exact pFields_field (pText_enc _ · hen) rfl

theorem entryV1_roundtrip (j : JEntry) (h : j.wf) :
    decodeEntry (cborEntryV1 j) = some { j with refs := none, encLinks := [], encNonce := [] } := by
  obtain ⟨hv, hid, hkey, hsig, hnext, hrefs, hclock, hpay, hidn, hel, hen⟩ := h
  refine decodeEntry_map (show 9 < two64 by decide) ?_
  refine pFields_field (pUint_enc _ · hv) ?_
  refine pFields_field (pText_enc _ · hid) ?_
  refine pFields_field (pText_enc _ · hkey) ?_
  refine pFields_field (pText_enc _ · hsig) ?_
  refine pFields_cons (fun _ => rfl) ?_
  refine pFields_field (pLinksOpt_enc _ · hnext) ?_
  refine pFields_field (pClockOpt_enc _ · hclock) ?_
  refine pFields_field (pText_enc _ · hpay) ?_
  refine pFields_field (pIdentityOpt_enc _ · hidn) ?_
  rfl

theorem manifest_roundtrip (m : JLog) (h : m.wf) : decodeManifest (cborManifest m) = some m := by
  refine decodeManifest_map (show 2 < two64 by decide) ?_
  refine pFields_field (pText_enc _ · h.1) ?_
  refine pFields_field (pLinksOpt_enc _ · h.2) ?_
  rfl

theorem isBytes_nil : isBytes [] = true := rfl

theorem isBytes_cons (a : Nat) (t : Bytes) : isBytes (a :: t) = true ↔ a < 256 ∧ isBytes t = true := by
  simp [isBytes]

theorem isBytes_append (a b : Bytes) : isBytes (a ++ b) = true ↔ isBytes a = true ∧ isBytes b = true := by
  simp [isBytes, List.all_append]

/-- whatever the argument: beyond 2^32 every digit is taken modulo 256 -/
theorem isBytes_head (m n : Nat) (hm : m < 8) : isBytes (head m n) = true := by
  have := headInfo_le n
  refine (isBytes_cons _ _).mpr ⟨by omega, ?_⟩
  fun_cases headArg n
  all_goals simp [isBytes, Nat.mod_lt]
  all_goals omega

def linksBytes : Option (List Bytes) → Prop
  | none => True
  | some l => ∀ c ∈ l, isBytes c = true

theorem isBytes_text (b : Bytes) (h : b.length < two64) (hb : isBytes b = true) : isBytes (enc (.text b)) = true := by
  -- `h` is not needed: `isBytes_head` holds for every argument
  simp [enc, isBytes_append, isBytes_head 3 _ (by omega), hb]

theorem isBytes_key (k : Bytes) (h : k.length < two64) (hb : isBytes k = true) (r : Bytes) (hr : isBytes r = true) :
    isBytes ((head 3 k.length ++ k) ++ r) = true := by
  -- `h` is not needed: `isBytes_head` holds for every argument
  simp [isBytes_append, isBytes_head 3 _ (by omega), hb, hr]

theorem isBytes_linkList (l : List Bytes) (hb : ∀ c ∈ l, isBytes c = true) : isBytes (encList (l.map linkItem)) = true := by
  induction l with
  | nil => rfl
  | cons c t ih =>
    simp only [List.map_cons, encList, isBytes_append, linkItem, enc]
    exact ⟨⟨isBytes_head 6 42 (by omega), isBytes_head 2 _ (by omega), (isBytes_cons 0 c).mpr ⟨by decide, hb c (by simp)⟩⟩,
      ih fun x hx => hb x (by simp [hx])⟩

theorem isBytes_links (o : Option (List Bytes)) (hb : linksBytes o) : isBytes (enc (linksItem o)) = true := by
  cases o with
  | none => rfl
  | some l =>
    simp only [linksItem, enc, isBytes_append]
    exact ⟨isBytes_head 4 _ (by omega), isBytes_linkList l hb⟩

theorem isBytes_cborEntry_links (nx rf : Option (List Bytes)) (b1 : linksBytes nx) (b2 : linksBytes rf) :
    isBytes (cborEntry { next := nx, refs := rf }) = true := by
  simp only [cborEntry, entryItem, encLinksFields, if_true, List.append_nil, enc, encMap, clockItem, identityItem,
    isBytes_append, isBytes_links nx b1, isBytes_links rf b2, isBytes_head 5 _ (by omega), true_and]
  -- what is left is closed: the ten keys with their heads, and the values of the eight fields that are empty here
  decide

end Model.Cbor
