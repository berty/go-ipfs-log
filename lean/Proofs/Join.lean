import Proofs.Difference
/-!
# Proofs.Join — `Join`: the ways it ends and what the heads of its result are, for any arguments; then the
unbounded `Join` of two replicas of one log: what it returns and that it preserves the invariant
(`difference_spec`, `mem_jHeads`, `inv_join`)
-/
namespace Model

section
variable {l l' : Log} {oid : Bytes} {E H : List Entry} {size : Int} {valid : Entry → Bool}

theorem joinTrim_of_not (l : Log) (hs : ¬ size > -1) : joinTrim l size = l := if_neg hs

theorem joinTrim_entries (l : Log) (hs : size > -1) :
    (joinTrim l size).entries = omFromList (keepLast size (values l)) := by
  rw [joinTrim, if_pos hs]

theorem joinTrim_heads (l : Log) (hs : size > -1) :
    (joinTrim l size).heads = omFromList (findHeads (joinTrim l size).entries) := by
  rw [joinTrim, if_pos hs]

theorem keepLast_eq_drop (hs : size > -1) (tmp : List Entry) :
    keepLast size tmp = tmp.drop (tmp.length - size.toNat) := by
  by_cases h : size < tmp.length
  · exact if_pos h
  · rw [Nat.sub_eq_zero_of_le (by omega : tmp.length ≤ size.toNat)]
    exact if_neg h

theorem join_ok (hj : join l oid E H size valid = .ok l') :
    (l.id ≠ oid ∧ l' = l) ∨
    (l.id = oid ∧ (difference E H l).any (fun e => !valid e) = false ∧
      l' = joinClock (joinTrim (joinMerge l E H) size)) := by
  unfold join at hj
  split at hj
  next hid => cases hj; exact .inl ⟨hid, rfl⟩
  next hid =>
    split at hj
    · cases hj
    next hv => cases hj; exact .inr ⟨by simpa using hid, by simpa using hv, rfl⟩

theorem join_other_id (A : Log) (otherId : Bytes) (E H : List Entry) (size : Int) (valid : Entry → Bool)
    (hid : A.id ≠ otherId) : join A otherId E H size valid = .ok A := by
  unfold join; simp [hid]

theorem join_err_of_invalid (A : Log) (otherId : Bytes) (E H : List Entry) (size : Int) (valid : Entry → Bool)
    (hid : A.id = otherId) (hbad : ∃ e ∈ difference E H A, valid e = false) :
    join A otherId E H size valid = .err := by
  have : ((difference E H A).any fun e => !valid e) = true :=
    let ⟨e, he, hv⟩ := hbad
    List.any_eq_true.mpr ⟨e, he, by simp [hv]⟩
  simp [join, hid, this]

theorem joinMerge_heads_has {x : Entry} (hx : x ∈ (joinMerge l E H).heads) :
    has (joinMerge l E H).entries x.hash = true := by
  have := (List.mem_filter.mp (mem_omFromList hx)).2
  simp only [Bool.and_eq_true] at this
  exact this.2

theorem joinMerge_heads_held (hdh : ∀ x ∈ l.heads, x ∈ l.entries) :
    ∀ x ∈ (joinMerge l E H).heads, x ∈ (joinMerge l E H).entries := by
  intro x hx
  rcases mem_omMerge (mem_findHeads.mp (List.mem_filter.mp (mem_omFromList hx)).1).1 with h | h
  · exact foldl_omSet_subset _ _ _ (hdh x h)
  · obtain ⟨hd, _, hg⟩ := List.mem_filterMap.mp h
    exact (get?_mem hg).1

theorem joinTrim_heads_held (l : Log) (hs : size > -1) : ∀ x ∈ (joinTrim l size).heads, x ∈ (joinTrim l size).entries :=
  fun _ hx => (mem_findHeads.mp (mem_omFromList (joinTrim_heads l hs ▸ hx))).1

end

/-! The intermediate values of `joinMerge A B.entries B.heads`, by name. -/

def jNew (A B : Log) : List Entry := difference B.entries B.heads A
def jEntries (A B : Log) : List Entry := (jNew A B).foldl omSet A.entries
def jNextIdx (A B : Log) : List Hash := (jNew A B).foldl (fun idx e => e.next.foldl hsSet idx) A.nextIdx
def jNextsFromNew (A B : Log) : List Hash := (jNew A B).foldl (fun acc e => acc ++ e.next) []
/-- the heads of the other log this log holds after admission, as the objects it holds -/
def jAdmitted (A B : Log) : List Entry := B.heads.filterMap (fun h => get? (jEntries A B) h.hash)
def jHeads (A B : Log) : List Entry :=
  omFromList ((findHeads (omMerge A.heads (jAdmitted A B))).filter
    (fun e => !(jNextsFromNew A B).contains e.hash && !(jNextIdx A B).contains e.hash && has (jEntries A B) e.hash))

/-- the state after `A.Join(B, -1)` when both carry the same id and every candidate is admitted -/
def joinU (A B : Log) : Log := joinClock (joinMerge A B.entries B.heads)

theorem joinU_entries (A B : Log) : (joinU A B).entries = jEntries A B := rfl
theorem joinU_heads (A B : Log) : (joinU A B).heads = jHeads A B := rfl
theorem joinU_nextIdx (A B : Log) : (joinU A B).nextIdx = jNextIdx A B := rfl
theorem joinU_id (A B : Log) : (joinU A B).id = A.id := rfl
theorem joinU_sortFn (A B : Log) : (joinU A B).sortFn = A.sortFn := rfl

theorem values_merge_eq (A B : Log) : values (joinMerge A B.entries B.heads) = values (joinU A B) := by
  unfold values  -- a bare `rfl` unfolds the traversal and is slow to check
  rfl

theorem join_eq (A B : Log) (hid : A.id = B.id) :
    join A B.id B.entries B.heads (-1) = .ok (joinU A B) := by
  unfold join
  simp [hid, joinTrim_of_not, joinU]

theorem difference_spec {U : List Entry} (hU : (hashes U).Nodup) {A B : Log} (IA : Inv U A) (IB : Inv U B)
    (hid : A.id = B.id) :
    (∀ x ∈ jNew A B, x ∈ B.entries ∧ has A.entries x.hash = false) ∧
    (hashes (jNew A B)).Nodup ∧
    (∀ x ∈ B.entries, has A.entries x.hash = false → x ∈ jNew A B) := by
  obtain ⟨hs, hn, hc⟩ := difference_general B.entries B.heads A IB.nodup
  refine ⟨fun x hx => ⟨(hs x hx).1, (hs x hx).2.1⟩, hn, fun x hx hxA => hc x ?_⟩
  obtain ⟨hd, hhd, hdesc⟩ := every_entry_below_some_head IB x hx
  -- every node of the path from the head to `x` is outside `A`, because `A` is closed
  induction hdesc with
  | refl ha =>
    exact .root (List.mem_map_of_mem hhd) (get?_eq_of_mem IB.nodup ha) hxA (by rw [IB.logId _ ha, hid])
  | @step b p c hab hc' hg ih =>
    have hpc : p.hash = c := (get?_mem hg).2
    have hbA : has A.entries b.hash = false := Bool.eq_false_iff.mpr fun hh => by
      have := IA.closed b (mem_of_has hU IA.inU (IB.inU b hab.mem_right) hh) c hc'
      rw [← hpc, hxA] at this
      cases this
    exact .step (ih hab.mem_right hbA) hc' hg (hpc ▸ hxA) (by rw [IB.logId p hx, hid])

section
variable {U : List Entry} {A B : Log}

theorem jEntries_eq (hU : (hashes U).Nodup) (IA : Inv U A) (IB : Inv U B) (hid : A.id = B.id) :
    jEntries A B = A.entries ++ jNew A B := by
  obtain ⟨hs, hn, _⟩ := difference_spec hU IA IB hid
  exact foldl_omSet_eq_append _ _ (fun x hx => (hs x hx).2) hn

theorem mem_jEntries (hU : (hashes U).Nodup) (IA : Inv U A) (IB : Inv U B) (hid : A.id = B.id) {x : Entry} :
    x ∈ jEntries A B ↔ x ∈ A.entries ∨ x ∈ B.entries := by
  obtain ⟨hs, _, hc⟩ := difference_spec hU IA IB hid
  rw [jEntries_eq hU IA IB hid, List.mem_append]
  refine ⟨fun hx => hx.imp_right fun h => (hs x h).1, fun hx => hx.elim Or.inl fun h => ?_⟩
  -- an entry of `B` is new, or `A` holds its hash and hence the entry itself
  cases hh : has A.entries x.hash with
  | false => exact Or.inr (hc x h hh)
  | true => exact Or.inl (mem_of_has hU IA.inU (IB.inU x h) hh)

theorem jEntries_nodup (IA : Inv U A) : (hashes (jEntries A B)).Nodup :=
  foldl_omSet_nodup _ _ IA.nodup

theorem mem_jNextIdx (hU : (hashes U).Nodup) (IA : Inv U A) (IB : Inv U B) (hid : A.id = B.id) {h : Hash} :
    h ∈ jNextIdx A B ↔ namedBy (jEntries A B) h := by
  rw [jNextIdx, mem_foldl_nextIdx, jEntries_eq hU IA IB hid, namedBy_append, IA.nextIdx]

theorem mem_jNextsFromNew {h : Hash} : h ∈ jNextsFromNew A B ↔ namedBy (jNew A B) h := by
  rw [jNextsFromNew, mem_foldl_next]; simp

theorem jAdmitted_eq (hU : (hashes U).Nodup) (IA : Inv U A) (IB : Inv U B) (hid : A.id = B.id) :
    jAdmitted A B = B.heads :=
  (filterMap_congr fun h hh => get?_eq_of_mem (jEntries_nodup IA)
    ((mem_jEntries hU IA IB hid).mpr (Or.inr (IB.headsIn h hh)))).trans List.filterMap_some

theorem mem_jHeads (hU : (hashes U).Nodup) (IA : Inv U A) (IB : Inv U B) (hid : A.id = B.id) {x : Entry} :
    x ∈ jHeads A B ↔ (x ∈ A.heads ∨ x ∈ B.heads) ∧ ¬ namedBy (jEntries A B) x.hash := by
  have hJ : ∀ {y}, y ∈ A.heads ∨ y ∈ B.heads → y ∈ jEntries A B := fun hy =>
    (mem_jEntries hU IA IB hid).mpr (hy.imp (IA.headsIn _) (IB.headsIn _))
  rw [jHeads, jAdmitted_eq hU IA IB hid, omFromList_eq_self
    ((List.filter_sublist.map _).nodup (findHeads_nodup (omMerge_nodup A.heads B.heads))),
    List.mem_filter, mem_findHeads,
    mem_omMerge_iff hU (fun m h => IA.inU m (IA.headsIn m h)) (fun m h => IB.inU m (IB.headsIn m h))]
  simp only [Bool.and_eq_true, Bool.not_eq_true', List.contains_eq_mem, decide_eq_false_iff_not,
    mem_jNextIdx hU IA IB hid, mem_jNextsFromNew]
  -- of the three tests only `jNextIdx` (= named in the union, `mem_jNextIdx`) decides: what the union leaves unnamed
  -- is unnamed among the merged heads and among the candidates, and every head is held
  constructor
  · rintro ⟨⟨hx, _⟩, ⟨_, h2⟩, _⟩
    exact ⟨hx, h2⟩
  · rintro ⟨hx, hn⟩
    refine ⟨⟨hx, fun hm => hn (namedBy_mono (fun e he => ?_) hm)⟩, ⟨fun hm => hn ?_, hn⟩, has_of_mem (hJ hx)⟩
    · exact hJ (mem_omMerge he)
    · rw [jEntries_eq hU IA IB hid, namedBy_append]
      exact Or.inr hm

theorem jHeads_nodup : (hashes (jHeads A B)).Nodup := omFromList_nodup _

theorem inv_join (hU : (hashes U).Nodup) (IA : Inv U A) (IB : Inv U B) (hid : A.id = B.id) :
    Inv U (joinU A B) := by
  have hJ : ∀ x, x ∈ jEntries A B ↔ x ∈ A.entries ∨ x ∈ B.entries := fun _ => mem_jEntries hU IA IB hid
  refine IA.extend (l' := joinU A B) (fun _ h => h) rfl hJ (jEntries_nodup IA) (fun x hx => ?_) (fun x => ?_) jHeads_nodup
    fun _ => mem_jNextIdx hU IA IB hid
  · exact ⟨IB.inU x hx, (IB.logId x hx).trans hid.symm, fun _ hn =>
      (IB.pred hx hn).imp fun p hp => ⟨(hJ p).mpr (Or.inr hp.1), hp.2⟩⟩
  · rw [← IB.mem_heads]
    exact mem_jHeads hU IA IB hid

end

end Model
