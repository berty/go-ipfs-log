import Proofs.Join
/-!
# Proofs.ConcSeq — facts about the sequential operations that only the concurrency theorems need

Nothing here is about concurrency; these are the facts about `Append`, `difference` and `Join` (on top of
`Proofs/OMap`, `Append`, `Difference`, `Join`) that only `Props/C13` and `Props/C14` use.  Ancestors along `next` and
that an `Append` puts every entry below the new head (`append_covered`).  What `difference` selects lies on an alive path
from the heads it was given (`difference_sound`, the converse of the completeness in `difference_general`: the worklist only
ever holds roots and successors of selected entries); hence, when heads and entries were read at different times, a merge can
add only entries of the state the heads were read in (`difference_in_snapshot`), and it must add all of them
(`difference_covers`, from the completeness of `difference`).  What an unbounded `join` does to the entry list
(`join_entries`).
-/
namespace Model

def NodupH (E : List Entry) : Prop := (hashes E).Nodup

/-- `Anc E a b`: `a` is `b` or is reachable from `b` along `next` through entries of `E`.
    `Proofs.FetchReach` declares another `Model.Anc` (ancestors of the fetch roots); the two files cannot be
    imported together. -/
inductive Anc (E : List Entry) : Hash → Hash → Prop where
  | refl (e : Entry) : e ∈ E → Anc E e.hash e.hash
  | step (e : Entry) (c a : Hash) : e ∈ E → c ∈ e.next → Anc E a c → Anc E a e.hash

theorem Anc.mono {E E' : List Entry} (hs : ∀ e ∈ E, e ∈ E') {a b : Hash} (h : Anc E a b) : Anc E' a b := by
  induction h with
  | refl e he => exact .refl e (hs e he)
  | step e c a he hc _ ih => exact .step e c a (hs e he) hc ih

def Covered (l : Log) : Prop :=
  (∀ x ∈ l.heads, x ∈ l.entries) ∧ ∀ x ∈ l.entries, ∃ hd ∈ l.heads, Anc l.entries x.hash hd.hash

theorem append_covered {l : Log} (pc : Int) {h : Hash} (tag : Nat) (hC : Covered l) (hf : h ∉ hashes l.entries) :
    Covered (append l pc h tag).2 ∧
    ∀ x ∈ l.entries, Anc (append l pc h tag).2.entries x.hash h := by
  have hhash := append_hash l pc h tag
  have hnext := append_next l pc h tag
  have hent := append_snd_entries l pc h tag
  have hheads := append_snd_heads l pc h tag
  generalize append l pc h tag = p at *
  subst hhash
  have heIn : p.1 ∈ p.2.entries := hent ▸ mem_omSet.mpr (.inr ⟨rfl, has_false_iff_not_mem.mpr hf⟩)
  have hanc : ∀ x ∈ l.entries, Anc p.2.entries x.hash p.1.hash := fun x hx => by
    obtain ⟨hd, hhd, ha⟩ := hC.2 x hx
    refine .step _ hd.hash _ heIn ?_ (ha.mono fun y hy => hent ▸ subset_omSet hy)
    rw [hnext, mem_appendPlan_next]
    exact List.mem_map_of_mem hhd
  refine ⟨⟨fun x hx => ?_, fun x hx => ⟨p.1, hheads ▸ List.mem_singleton_self _, ?_⟩⟩, hanc⟩
  · rw [hheads, List.mem_singleton] at hx
    exact hx ▸ heIn
  · rcases mem_omSet.mp (hent ▸ hx) with h1 | ⟨rfl, _⟩
    · exact hanc x h1
    · exact .refl _ heIn

theorem diffLoop_alivePath {EA EB : List Entry} {idB : Bytes} {roots : List Hash} (fuel : Nat) (stack trav : List Hash)
    (res : List Entry)
    (hs : ∀ h ∈ stack, h ∈ roots ∨ ∃ e, AlivePath EA EB idB roots e ∧ h ∈ e.next)
    (hr : ∀ x ∈ res, AlivePath EA EB idB roots x) :
    ∀ x ∈ diffLoop EA EB idB fuel stack trav res, AlivePath EA EB idB roots x := by
  fun_induction diffLoop EA EB idB fuel stack trav res with
  | case1 | case2 => exact hr
  | case3 fuel h stack trav res eA hg hc res' trav' step ih =>
    simp only [Bool.and_eq_true, Bool.not_eq_true', beq_iff_eq] at hc
    have hp : AlivePath EA EB idB roots eA := by
      rcases hs h List.mem_cons_self with h1 | ⟨e, he, h1⟩
      · exact .root h1 hg hc.1 hc.2
      · exact .step he h1 hg hc.1 hc.2
    refine ih (fun h' hm => ?_) fun x hx => ?_
    · rcases (diffPush_spec EB eA.next stack trav').stackNew h' hm with h1 | ⟨h1, _⟩
      · exact hs h' (List.mem_cons_of_mem _ h1)
      · exact .inr ⟨eA, hp, h1⟩
    · rcases mem_omSet.mp hx with h1 | ⟨rfl, _⟩
      · exact hr x h1
      · exact hp
  | case4 _ _ _ _ _ _ _ _ ih | case5 _ _ _ _ _ _ ih => exact ih (fun h' hm => hs h' (List.mem_cons_of_mem _ hm)) hr

theorem difference_sound {EA HA : List Entry} {l : Log} {x : Entry} (hx : x ∈ difference EA HA l) :
    AlivePath EA l.entries l.id (hashes HA) x := by
  unfold difference at hx
  split at hx
  · cases hx
  · exact diffLoop_alivePath _ _ [] [] (fun h hm => .inl hm) nofun x hx

def Closed (E : List Entry) : Prop := ∀ e ∈ E, ∀ c ∈ e.next, c ∈ hashes E

theorem get?_in_sub {EA E1 : List Entry} (hn : NodupH EA) (hsub : ∀ e ∈ E1, e ∈ EA) {h : Hash} {x : Entry}
    (hh : h ∈ hashes E1) (hg : get? EA h = some x) : x ∈ E1 :=
  mem_of_has hn hsub (get?_mem hg).1 (has_iff_mem_hashes.mpr ((get?_mem hg).2.symm ▸ hh))

theorem alivePath_in_closed {EA EB E1 : List Entry} {idB : Bytes} {roots : List Hash} (hn : NodupH EA)
    (hsub : ∀ e ∈ E1, e ∈ EA) (hcl : Closed E1) (hroots : ∀ r ∈ roots, r ∈ hashes E1) {x : Entry}
    (hp : AlivePath EA EB idB roots x) : x ∈ E1 := by
  induction hp with
  | root hr hg _ _ => exact get?_in_sub hn hsub (hroots _ hr) hg
  | step _ hc hg _ _ ih => exact get?_in_sub hn hsub (hcl _ ih _ hc) hg

theorem difference_in_snapshot {E1 E2 H1 : List Entry} {l : Log} (hn : NodupH E2)
    (hsub : ∀ e ∈ E1, e ∈ E2) (hcl : Closed E1) (hheads : ∀ x ∈ H1, x ∈ E1) {x : Entry}
    (hx : x ∈ difference E2 H1 l) : x ∈ E1 ∧ x.hash ∉ hashes l.entries :=
  ⟨alivePath_in_closed hn hsub hcl (fun _ hr => hashes_subset hheads hr) (difference_sound hx),
   has_false_iff_not_mem.mp ((difference_general E2 H1 l hn).1 x hx).2.1⟩

theorem difference_covers {E1 E2 H1 : List Entry} {dest : Log} (hn : NodupH E2) (hsub : ∀ e ∈ E1, e ∈ E2)
    (hcov : ∀ x ∈ E1, ∃ hd ∈ H1, Anc E1 x.hash hd.hash)
    (hid : ∀ e ∈ E1, (e.logId == dest.id) = true)
    (hdcl : Closed dest.entries)
    (hcons : ∀ a ∈ E2, ∀ b ∈ dest.entries, a.hash = b.hash → a.next = b.next) :
    ∀ x ∈ E1, x.hash ∈ hashes dest.entries ∨ x ∈ difference E2 H1 dest := by
  -- up a path to a head, from an entry outside the destination: the destination is closed under `next` (`hdcl`, `hcons`),
  -- so the whole path is outside and `difference` follows it
  have key : ∀ {a b : Hash}, Anc E1 a b →
      (∀ eb ∈ E1, eb.hash = b → b ∉ hashes dest.entries → AlivePath E2 dest.entries dest.id (hashes H1) eb) →
      ∀ ea ∈ E1, ea.hash = a → a ∉ hashes dest.entries → AlivePath E2 dest.entries dest.id (hashes H1) ea := by
    intro a b hanc
    induction hanc with
    | refl e he => exact fun h => h
    | step e c a he hc _ ih =>
      refine fun hb => ih fun y hy hyc hd => .step (hb e he rfl fun he' => hd ?_) hc (hyc ▸ get?_eq_of_mem hn (hsub y hy))
        (has_false_iff_not_mem.mpr hd) (by simpa using hid y hy)
      obtain ⟨b', hb', hbe⟩ := mem_hashes.mp he'
      exact hdcl b' hb' c (hcons e (hsub e he) b' hb' hbe.symm ▸ hc)
  intro x hx
  obtain ⟨hd, hhd, hanc⟩ := hcov x hx
  refine Classical.or_iff_not_imp_left.mpr fun hx' => (difference_general E2 H1 dest hn).2.2 x (key hanc ?_ x hx rfl hx')
  exact fun eb heb hebh hb => .root (List.mem_map_of_mem hhd) (hebh ▸ get?_eq_of_mem hn (hsub eb heb))
    (has_false_iff_not_mem.mpr hb) (by simpa using hid eb heb)

section
variable {l l' : Log} {oid : Bytes} {E H : List Entry} {size : Int} {valid : Entry → Bool}

theorem join_entries (hs : ¬ size > -1) (hj : join l oid E H size valid = .ok l') :
    l'.entries = if l.id = oid then (difference E H l).foldl omSet l.entries else l.entries := by
  rcases join_ok hj with ⟨hid, rfl⟩ | ⟨hid, _, rfl⟩
  · rw [if_neg hid]
  · rw [if_pos hid, joinTrim_of_not _ hs]; rfl

theorem join_grows (hs : ¬ size > -1) (hj : join l oid E H size valid = .ok l') :
    ∀ x ∈ l.entries, x ∈ l'.entries := by
  intro x hx
  rw [join_entries hs hj]
  split
  · exact foldl_omSet_subset _ _ _ hx
  · exact hx

theorem join_from (hs : ¬ size > -1) (hj : join l oid E H size valid = .ok l') :
    ∀ x ∈ l'.entries, x ∈ l.entries ∨ x ∈ difference E H l := by
  intro x hx
  rw [join_entries hs hj] at hx
  split at hx
  · exact mem_foldl_omSet _ _ _ hx
  · exact Or.inl hx

theorem join_nodupH (hn : NodupH l.entries) (hj : join l oid E H size valid = .ok l') : NodupH l'.entries := by
  rcases join_ok hj with ⟨_, rfl⟩ | ⟨_, _, rfl⟩
  · exact hn
  · show NodupH (joinTrim (joinMerge l E H) size).entries
    by_cases hs : size > -1
    · exact joinTrim_entries _ hs ▸ omFromList_nodup _
    · exact joinTrim_of_not _ hs ▸ foldl_omSet_nodup _ _ hn

end

end Model
