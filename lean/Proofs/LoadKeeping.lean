import Proofs.SortTrim
import Model.Loaders
import Proofs.OMap
/-!
# Proofs.LoadKeeping — `entryLastNKeeping`, the cut of the length-limited `NewFromEntry`

`lastNKeeping n S keep` scans the (sorted) list from its end: an entry whose hash is one of the supplied
ones is always kept, another entry is kept while the quota `n - d` (d = number of distinct supplied
hashes) lasts.  With the scan as a structural recursion (`keepRev`): for a duplicate-free `S` the cut keeps the
supplied entries and, of the others, `lastN (n - d)` (`lastNKeeping_filter`).  Hence, by `lastN_sort_eq` for the
others, the cut does not see what the limited fetch left out (`lastNKeeping_cut_eq`).
-/
namespace Model

def keepRev (K : Entry → Bool) : List Entry → Int → List Entry
  | [], _ => []
  | e :: es, q => if K e then e :: keepRev K es q
                  else if q > 0 then e :: keepRev K es (q - 1) else keepRev K es q

theorem keep_foldl (K : Entry → Bool) (L acc : List Entry) (q : Int) :
    (L.foldl (fun (acc : List Entry × Int) e =>
      if K e then (acc.1 ++ [e], acc.2)
      else if acc.2 > 0 then (acc.1 ++ [e], acc.2 - 1) else acc) (acc, q)).1 = acc ++ keepRev K L q := by
  fun_induction keepRev K L q generalizing acc with
  | case1 => exact (List.append_nil acc).symm
  | case2 e es q hk ih => rw [List.foldl_cons, if_pos hk, ih, List.append_assoc, List.singleton_append]
  | case3 e es q hk hq ih => rw [List.foldl_cons, if_neg hk, if_pos hq, ih, List.append_assoc, List.singleton_append]
  | case4 e es q hk hq ih => rw [List.foldl_cons, if_neg hk, if_neg hq, ih]

def keptBy (keep : List Entry) (e : Entry) : Bool := (dedupHashes (keep.map (·.hash)) []).contains e.hash

theorem keptBy_iff (keep : List Entry) (e : Entry) : keptBy keep e = true ↔ e.hash ∈ hashes keep := by
  unfold keptBy
  rw [List.contains_iff_mem, mem_dedupHashes]
  simp [hashes]

theorem lastNKeeping_of_ge {n : Int} {S : List Entry} (keep : List Entry) (h : n ≥ S.length) :
    lastNKeeping n S keep = S := if_pos h

theorem lastNKeeping_eq (n : Int) (S keep : List Entry) (h : ¬ n ≥ S.length) :
    lastNKeeping n S keep =
      (keepRev (keptBy keep) S.reverse (n - (dedupHashes (keep.map (·.hash)) []).length)).reverse := by
  unfold lastNKeeping
  rw [if_neg h]
  exact congrArg List.reverse (keep_foldl (keptBy keep) S.reverse [] _)

theorem keepRev_sublist (K : Entry → Bool) (L : List Entry) (q : Int) : (keepRev K L q).Sublist L := by
  fun_induction keepRev K L q with
  | case1 => exact .slnil
  | case2 e es q hk ih => exact ih.cons_cons e
  | case3 e es q hk hq ih => exact ih.cons_cons e
  | case4 e es q hk hq ih => exact ih.cons e

theorem keepRev_filter (K : Entry → Bool) (L : List Entry) (q : Int) :
    (keepRev K L q).filter K = L.filter K ∧
    (keepRev K L q).filter (fun e => !K e) = (L.filter (fun e => !K e)).take q.toNat := by
  fun_induction keepRev K L q with
  | case1 => exact ⟨rfl, List.take_nil.symm⟩
  | case2 e es q hk ih => simp [hk, ih]
  | case3 e es q hk hq ih =>
    rw [show q.toNat = (q - 1).toNat + 1 by omega]
    simp [hk, ih]
  | case4 e es q hk hq ih =>
    rw [Int.toNat_of_nonpos (Int.not_lt.mp hq)] at ih ⊢
    simp [hk, ih]

theorem lastNKeeping_sublist (n : Int) (S keep : List Entry) : (lastNKeeping n S keep).Sublist S := by
  by_cases h : n ≥ S.length
  · rw [lastNKeeping_of_ge keep h]
    exact .refl _
  · rw [lastNKeeping_eq n S keep h, ← List.reverse_sublist, List.reverse_reverse]
    exact keepRev_sublist ..

theorem kept_count {S : List Entry} (keep : List Entry) (hS : (hashes S).Nodup)
    (hsub : ∀ h ∈ hashes keep, h ∈ hashes S) :
    (S.filter (keptBy keep)).length = (dedupHashes (keep.map (·.hash)) []).length := by
  have hnd : ((S.filter (keptBy keep)).map (·.hash)).Nodup := hS.sublist (List.filter_sublist.map _)
  rw [← List.length_map (·.hash)]
  refine ((List.perm_ext_iff_of_nodup hnd (dedupHashes_nodup _ [] List.nodup_nil)).mpr fun h => ?_).length_eq
  constructor
  · intro hh
    obtain ⟨e, he, rfl⟩ := List.mem_map.mp hh
    exact List.contains_iff_mem.mp (List.mem_filter.mp he).2
  · intro hh
    obtain ⟨e, he, rfl⟩ := mem_hashes.mp (hsub h (by simpa [hashes] using (mem_dedupHashes _ _ _).mp hh))
    exact List.mem_map_of_mem (List.mem_filter.mpr ⟨he, List.contains_iff_mem.mpr hh⟩)

theorem lastNKeeping_filter (n : Int) {S : List Entry} (keep : List Entry) (hS : (hashes S).Nodup)
    (hsub : ∀ h ∈ hashes keep, h ∈ hashes S) :
    (lastNKeeping n S keep).filter (keptBy keep) = S.filter (keptBy keep) ∧
    (lastNKeeping n S keep).filter (fun e => !keptBy keep e) =
      lastN (n - (dedupHashes (keep.map (·.hash)) []).length) (S.filter (fun e => !keptBy keep e)) := by
  by_cases h : n ≥ S.length
  · have hlen : _ ≤ n.toNat := Int.ofNat_le.mp (Int.le_trans h n.self_le_toNat)
    rw [← (List.filter_append_perm (keptBy keep) S).length_eq, List.length_append, kept_count keep hS hsub] at hlen
    rw [lastNKeeping_of_ge keep h, lastN_eq_drop, Int.toNat_sub', Nat.sub_eq_zero_of_le (Nat.le_sub_of_add_le' hlen),
      List.drop_zero]
    exact ⟨rfl, rfl⟩
  · have hf := keepRev_filter (keptBy keep) S.reverse (n - (dedupHashes (keep.map (·.hash)) []).length)
    rw [lastNKeeping_eq n S keep h, List.filter_reverse, List.filter_reverse, hf.1, hf.2, List.filter_reverse,
      List.filter_reverse, List.reverse_reverse, List.take_reverse, List.reverse_reverse, lastN_eq_drop]
    exact ⟨rfl, rfl⟩

theorem mem_lastNKeeping (n : Int) {S : List Entry} (keep : List Entry) (hS : (hashes S).Nodup)
    (hsub : ∀ h ∈ hashes keep, h ∈ hashes S) (x : Entry) :
    x ∈ lastNKeeping n S keep ↔
      x ∈ S ∧ (keptBy keep x = true ∨
        x ∈ lastN (n - (dedupHashes (keep.map (·.hash)) []).length) (S.filter (fun e => !keptBy keep e))) := by
  obtain ⟨h1, h2⟩ := lastNKeeping_filter n keep hS hsub
  rw [← (List.filter_append_perm (keptBy keep) _).mem_iff, List.mem_append, h1, h2, List.mem_filter, and_or_left]
  exact or_congr_right (and_iff_right_of_imp fun h => (List.mem_filter.mp ((lastN_sublist _ _).subset h)).1).symm

theorem mem_lastNKeeping_of_subset (n : Int) {S keep : List Entry} (hS : (hashes S).Nodup)
    (hk : ∀ e ∈ keep, e ∈ S) (x : Entry) :
    x ∈ lastNKeeping n S keep ↔
      x ∈ S ∧ (x ∈ keep ∨
        x ∈ lastN (n - (dedupHashes (keep.map (·.hash)) []).length) (S.filter (fun e => !keptBy keep e))) := by
  rw [mem_lastNKeeping n keep hS fun _ => hashes_subset hk]
  refine and_congr_right fun hx => or_congr_left ((keptBy_iff keep x).trans ⟨fun h => ?_, List.mem_map_of_mem⟩)
  -- a supplied hash names the supplied entry
  obtain ⟨e, he, heq⟩ := mem_hashes.mp h
  exact eq_of_hash_eq hS (hk e he) hx heq ▸ he

theorem lastNKeeping_length (n : Int) {S : List Entry} (keep : List Entry) (hS : (hashes S).Nodup)
    (hsub : ∀ h ∈ hashes keep, h ∈ hashes S) (hn : (keep.length : Int) ≤ n) :
    (lastNKeeping n S keep).length = min n.toNat S.length := by
  have hd : (dedupHashes (keep.map (·.hash)) []).length ≤ n.toNat :=
    Int.toNat_le_toNat (Int.le_trans (Int.ofNat_le.mpr (List.length_map (as := keep) _ ▸ dedupHashes_length_le _)) hn)
  obtain ⟨h1, h2⟩ := lastNKeeping_filter n keep hS hsub
  -- `d` kept ones and `min (n - d)` of the others, out of `d` and the others
  rw [← (List.filter_append_perm (keptBy keep) (lastNKeeping n S keep)).length_eq,
    ← (List.filter_append_perm (keptBy keep) S).length_eq, List.length_append, List.length_append, h1, h2,
    lastN_length, kept_count keep hS hsub, Int.toNat_sub', ← Nat.add_min_add_left, Nat.add_sub_cancel' hd]

theorem lastNKeeping_cut_eq {lt : Entry → Entry → Bool} {A R src : List Entry} {N : Int}
    (hsto : STO lt (· ∈ A)) (hasym : ∀ a b, a ∈ A → b ∈ A → lt a b = true → lt b a = false)
    (htime : ∀ a b, a ∈ A → b ∈ A → a.clock.time < b.clock.time → lt a b = true)
    (hA : (hashes A).Nodup) (hR : R.Nodup) (hsub : ∀ r ∈ R, r ∈ A) (hsrc : ∀ e ∈ src, e ∈ A)
    (hcut : ∀ a ∈ A, a ∈ R ∨ N ≤ (cntGt R a.clock.time : Int)) :
    lastNKeeping N (goSort lt (omFromList (src ++ R))) src = lastNKeeping N (goSort lt A) src := by
  let R' := omFromList (src ++ R)
  have hAn : A.Nodup := nodup_of_hashes_nodup hA
  have hmemR' : ∀ x, x ∈ R' ↔ x ∈ src ∨ x ∈ R := fun x =>
    (mem_omFromList_iff hA fun a ha => (List.mem_append.mp ha).elim (hsrc a) (hsub a)).trans List.mem_append
  have hR'A : ∀ a ∈ R', a ∈ A := fun a ha => ((hmemR' a).mp ha).elim (hsrc a) (hsub a)
  have hR'h : (hashes R').Nodup := omFromList_nodup _
  have hR'n : R'.Nodup := nodup_of_hashes_nodup hR'h
  have hsrcR' : ∀ e ∈ src, e ∈ R' := fun e he => (hmemR' e).mpr (Or.inl he)
  let nk : Entry → Bool := fun e => !keptBy src e
  -- the others: the newest `N - d`, the same for both
  have hothers : lastN (N - (dedupHashes (src.map (·.hash)) []).length) ((goSort lt R').filter nk) =
      lastN (N - (dedupHashes (src.map (·.hash)) []).length) ((goSort lt A).filter nk) := by
    rw [filter_goSort hsto hasym hR'n hR'A nk, filter_goSort hsto hasym hAn (fun _ h => h) nk]
    refine lastN_sort_eq hsto hasym htime (fun a ha => (List.mem_filter.mp ha).1) (hAn.sublist List.filter_sublist)
      (hR'n.sublist List.filter_sublist)
      (fun r hr => List.mem_filter.mpr ⟨hR'A r (List.mem_filter.mp hr).1, (List.mem_filter.mp hr).2⟩) fun a ha => ?_
    obtain ⟨haA, hnk⟩ := List.mem_filter.mp ha
    refine (hcut a haA).imp (fun h1 => List.mem_filter.mpr ⟨(hmemR' a).mpr (Or.inr h1), hnk⟩) fun h1 => ?_
    -- at most `d` of the `N` later members of `R'` are supplied ones
    have h2 := cntGt_mono_subset hR (fun r hr => (hmemR' r).mpr (Or.inr hr)) a.clock.time
    have h3 : cntGt R' a.clock.time ≤ cntGt (R'.filter nk) a.clock.time + _ :=
      cntGt_le_length_filter R' a.clock.time (keptBy src)
    rw [kept_count src hR'h fun _ => hashes_subset hsrcR'] at h3
    omega
  refine sublist_goSort_ext hsto hasym hR'n hR'A hAn (fun _ h => h) (lastNKeeping_sublist ..)
    (lastNKeeping_sublist ..) fun x => ?_
  rw [mem_lastNKeeping_of_subset N (goSort_hashes_nodup _ hR'h) (fun e he => mem_goSort.mpr (hsrcR' e he)) x,
    mem_lastNKeeping_of_subset N (goSort_hashes_nodup _ hA) (fun e he => mem_goSort.mpr (hsrc e he)) x, hothers,
    mem_goSort, mem_goSort]
  refine and_congr_left fun h2 => ⟨hR'A x, fun _ => h2.elim (hsrcR' x) fun h2 => ?_⟩
  rw [← hothers] at h2
  exact mem_goSort.mp (List.mem_filter.mp ((lastN_sublist _ _).subset h2)).1

end Model
