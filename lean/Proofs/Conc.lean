import Model.Conc
/-!
# Proofs.Conc — invariants of the concurrent world

`StepR` is the step function as a relation, one constructor per instruction and outcome.  The invariants of the lock
table go by its cases, with `forall_upd` for the cell that moves: `Excl` (reader/writer exclusion, arbitrary programs),
`step_pending`, and `Coh` (well-bracketed programs: the table agrees with what every thread holds), which is read cell
by cell (`Agree`) so that a lock move concerns only the cell of its lock and its thread (`coh_lock`).  What a step does
to a thread (`step_thr`) and to one log with its events and the writer slot of its lock (`Effect`, `step_effect`) is
proved once from `StepR`; whatever is said about logs, events and registers, here and in the files that import this
one, uses only these.
-/
namespace Model.Conc

@[simp] theorem upd_same {α : Type} (f : Nat → α) (i : Nat) (v : α) : upd f i v i = v := by simp [upd]
theorem upd_other {α : Type} (f : Nat → α) {i j : Nat} (v : α) (h : j ≠ i) : upd f i v j = f j := by simp [upd, h]

theorem forall_upd {α : Type} {P : Nat → α → Prop} {f : Nat → α} {i : Nat} {v : α}
    (hf : ∀ j, P j (f j)) (hv : P i v) (j : Nat) : P j (upd f i v j) := by
  by_cases h : j = i
  · subst h; rw [upd_same]; exact hv
  · rw [upd_other _ _ h]; exact hf j

inductive StepR (w : World) (t : Tid) : World → Prop where
  | hook (p : Hook) (rest : List Instr) (h : (w.thr t).rest = .hook p :: rest) :
      StepR w t { w with thr := upd w.thr t { w.thr t with rest := rest } }
  | rlock (l : Lid) (rest : List Instr) (h : (w.thr t).rest = .rlock l :: rest)
      (hw : (w.locks l).writer = none) (hp : (w.locks l).pending = none) :
      StepR w t { w with locks := upd w.locks l { w.locks l with readers := t :: (w.locks l).readers }
                         thr := upd w.thr t { w.thr t with rest := rest, held := some (l, false) } }
  | runlock (l : Lid) (rest : List Instr) (h : (w.thr t).rest = .runlock l :: rest)
      (hm : t ∈ (w.locks l).readers) :
      StepR w t { w with locks := upd w.locks l { w.locks l with readers := (w.locks l).readers.erase t }
                         thr := upd w.thr t { w.thr t with rest := rest, held := none } }
  | lockAcq (l : Lid) (rest : List Instr) (h : (w.thr t).rest = .lock l :: rest)
      (hw : (w.locks l).writer = none) (hr : (w.locks l).readers = [])
      (hp : (w.locks l).pending = none ∨ (w.locks l).pending = some t) :
      StepR w t { w with locks := upd w.locks l { w.locks l with writer := some t, pending := none }
                         thr := upd w.thr t { w.thr t with rest := rest, held := some (l, true) }
                         ev := upd w.ev l (.acq t :: w.ev l) }
  | lockAnnounce (l : Lid) (rest : List Instr) (h : (w.thr t).rest = .lock l :: rest)
      (hw : (w.locks l).writer = none) (hr : (w.locks l).readers ≠ []) (hp : (w.locks l).pending = none) :
      StepR w t { w with locks := upd w.locks l { w.locks l with pending := some t } }
  | unlock (l : Lid) (rest : List Instr) (h : (w.thr t).rest = .unlock l :: rest)
      (hw : (w.locks l).writer = some t) :
      StepR w t { w with locks := upd w.locks l { w.locks l with writer := none }
                         thr := upd w.thr t { w.thr t with rest := rest, held := none }
                         ev := upd w.ev l (.rel t :: w.ev l) }
  | readHeads (l : Lid) (rest : List Instr) (h : (w.thr t).rest = .readHeads l :: rest) :
      StepR w t { w with thr := upd w.thr t { w.thr t with rest := rest, regs := { (w.thr t).regs with hs := (w.logs l).heads, hsAt := some (l, (w.ev l).length) } } }
  | readEntries (l : Lid) (rest : List Instr) (h : (w.thr t).rest = .readEntries l :: rest) :
      StepR w t { w with thr := upd w.thr t { w.thr t with rest := rest, regs := { (w.thr t).regs with es := (w.logs l).entries, esAt := some (l, (w.ev l).length) } } }
  | observe (l : Lid) (rest : List Instr) (h : (w.thr t).rest = .observe l :: rest) :
      StepR w t { w with thr := upd w.thr t { w.thr t with rest := rest, regs := { (w.thr t).regs with obs := (w.thr t).regs.obs ++ [seenOf (w.logs l)] } } }
  | write (l : Lid) (op : WOp) (rest : List Instr) (h : (w.thr t).rest = .write l op :: rest) :
      StepR w t { w with logs := upd w.logs l (applyW op (w.thr t).regs (w.logs l)).1
                         thr := upd w.thr t { w.thr t with rest := rest, regs := (applyW op (w.thr t).regs (w.logs l)).2 }
                         ev := upd w.ev l (.wr t op (w.thr t).regs :: w.ev l) }

theorem step_sound {w w' : World} {t : Tid} (h : step w t = some w') : StepR w t w' := by
  dsimp only [step] at h
  split at h
  · cases h
  next i rest hr =>
    cases i with
    | hook p => cases h; exact .hook p rest hr
    | rlock l =>
      obtain ⟨hc, rfl⟩ := Option.ite_some_none_eq_some.mp h
      exact .rlock l rest hr hc.1 hc.2
    | runlock l =>
      obtain ⟨hc, rfl⟩ := Option.ite_some_none_eq_some.mp h
      exact .runlock l rest hr hc
    | lock l =>
      dsimp only at h
      split at h
      next hc => cases h; exact .lockAcq l rest hr hc.1 hc.2.1 hc.2.2
      next hc =>
        obtain ⟨hc2, rfl⟩ := Option.ite_some_none_eq_some.mp h
        exact .lockAnnounce l rest hr hc2.1 (fun e => hc ⟨hc2.1, e, .inl hc2.2⟩) hc2.2
    | unlock l =>
      obtain ⟨hc, rfl⟩ := Option.ite_some_none_eq_some.mp h
      exact .unlock l rest hr hc
    | readHeads l => cases h; exact .readHeads l rest hr
    | readEntries l => cases h; exact .readEntries l rest hr
    | observe l => cases h; exact .observe l rest hr
    | write l op => cases h; exact .write l op rest hr

theorem step_complete {w w' : World} {t : Tid} (h : StepR w t w') : step w t = some w' := by
  cases h <;> simp [step, *]

theorem step_iff {w w' : World} {t : Tid} : step w t = some w' ↔ StepR w t w' :=
  ⟨step_sound, step_complete⟩

theorem run_inv {P : World → Prop} (hstep : ∀ w t w', P w → step w t = some w' → P w') :
    ∀ (s : List Tid) (w : World), P w → P (run w s)
  | [], _, h => h
  | t :: ts, w, h => by
    unfold run
    split
    · rename_i w' hs; exact run_inv hstep ts w' (hstep w t w' h hs)
    · exact run_inv hstep ts w h

theorem exec_eq_run : ∀ {s : List Tid} {w w' : World}, exec w s = some w' → w' = run w s
  | [], _, _, h => by simp only [exec, Option.some.injEq] at h; exact h.symm
  | t :: ts, w, w', h => by
    unfold exec at h; unfold run
    cases hs : step w t with
    | none => rw [hs] at h; cases h
    | some w1 => rw [hs] at h; exact exec_eq_run h

theorem exec_inv {P : World → Prop} (hstep : ∀ w t w', P w → step w t = some w' → P w') :
    ∀ (s : List Tid) (w w' : World), P w → exec w s = some w' → P w' :=
  fun s w _ h he => exec_eq_run he ▸ run_inv hstep s w h

def regsAfter (w : World) (t : Tid) : Instr → Regs
  | .readHeads l => { (w.thr t).regs with hs := (w.logs l).heads, hsAt := some (l, (w.ev l).length) }
  | .readEntries l => { (w.thr t).regs with es := (w.logs l).entries, esAt := some (l, (w.ev l).length) }
  | .observe l => { (w.thr t).regs with obs := (w.thr t).regs.obs ++ [seenOf (w.logs l)] }
  | .write l op => (applyW op (w.thr t).regs (w.logs l)).2
  | _ => (w.thr t).regs

theorem step_other {w w' : World} {t u : Tid} (h : step w t = some w') (hu : u ≠ t) : w'.thr u = w.thr u := by
  cases step_sound h with
  | lockAnnounce => rfl
  | _ => exact upd_other _ _ hu

theorem step_self {w w' : World} {t : Tid} (h : step w t = some w') :
    (∃ l rest, (w.thr t).rest = .lock l :: rest ∧ (w.locks l).pending = none ∧
      w' = { w with locks := upd w.locks l { w.locks l with pending := some t } }) ∨
    ∃ i rest, (w.thr t).rest = i :: rest ∧ (w'.thr t).rest = rest ∧ (w'.thr t).regs = regsAfter w t i := by
  cases step_sound h with
  | lockAnnounce l rest hr hw hrd hp => exact Or.inl ⟨l, rest, hr, hp, rfl⟩
  | _ => exact Or.inr ⟨_, _, by assumption, by simp, by simp [regsAfter]⟩

theorem step_thr {w w' : World} {t : Tid} (h : step w t = some w') (u : Tid) :
    w'.thr u = w.thr u ∨
    u = t ∧ ∃ i rest, (w.thr t).rest = i :: rest ∧ (w'.thr t).rest = rest ∧ (w'.thr t).regs = regsAfter w t i := by
  by_cases hu : u = t
  · rcases step_self h with ⟨_, _, _, _, rfl⟩ | h'
    · exact .inl rfl
    · exact .inr ⟨hu, h'⟩
  · exact .inl (step_other h hu)

/-- what a step of thread `t` does to log `l`, its event list and the writer slot of its lock -/
inductive Effect (w w' : World) (t : Tid) (l : Lid) : Prop where
  | none (he : w'.ev l = w.ev l) (hl : w'.logs l = w.logs l) (hk : (w'.locks l).writer = (w.locks l).writer)
  | acq (he : w'.ev l = .acq t :: w.ev l) (hl : w'.logs l = w.logs l)
      (hk : (w.locks l).writer = none) (hk' : (w'.locks l).writer = some t)
  | rel (he : w'.ev l = .rel t :: w.ev l) (hl : w'.logs l = w.logs l)
      (hk : (w.locks l).writer = some t) (hk' : (w'.locks l).writer = none)
  | wr (op : WOp) (rest : List Instr) (hr : (w.thr t).rest = .write l op :: rest)
      (he : w'.ev l = .wr t op (w.thr t).regs :: w.ev l)
      (hl : w'.logs l = (applyW op (w.thr t).regs (w.logs l)).1)
      (hk : (w'.locks l).writer = (w.locks l).writer)

theorem step_effect {w w' : World} {t : Tid} (h : step w t = some w') (l : Lid) : Effect w w' t l := by
  have keep : ∀ {l' : Lid} {k' : RW}, k'.writer = (w.locks l').writer →
      (upd w.locks l' k' l).writer = (w.locks l).writer := fun hk =>
    forall_upd (P := fun j (k : RW) => k.writer = (w.locks j).writer) (fun _ => rfl) hk l
  cases step_sound h with
  | rlock l' rest hr hw hp | runlock l' rest hr hm | lockAnnounce l' rest hr hw hrd hp =>
    exact .none rfl rfl (keep rfl)
  | lockAcq l' rest hr hw hrd hp =>
    by_cases hl : l = l'
    · subst hl; exact .acq (upd_same ..) rfl hw (congrArg RW.writer (upd_same ..))
    · exact .none (upd_other _ _ hl) rfl (congrArg RW.writer (upd_other _ _ hl))
  | unlock l' rest hr hw =>
    by_cases hl : l = l'
    · subst hl; exact .rel (upd_same ..) rfl hw (congrArg RW.writer (upd_same ..))
    · exact .none (upd_other _ _ hl) rfl (congrArg RW.writer (upd_other _ _ hl))
  | write l' op rest hr =>
    by_cases hl : l = l'
    · subst hl; exact .wr op rest hr (upd_same ..) (upd_same ..) rfl
    · exact .none (upd_other _ _ hl) (upd_other _ _ hl) rfl
  | _ => exact .none rfl rfl rfl

theorem step_ev {w w' : World} {t : Tid} (h : step w t = some w') (l : Lid) :
    w'.ev l = w.ev l ∨ ∃ e, w'.ev l = e :: w.ev l := by
  cases step_effect h l with
  | none he _ _ => exact Or.inl he
  | acq he _ _ _ | rel he _ _ _ | wr _ _ _ he _ _ => exact Or.inr ⟨_, he⟩

theorem step_ev_wr {w w' : World} {t : Tid} (h : step w t = some w') {l : Lid} {u : Tid} {op : WOp} {r : Regs}
    (hm : Ev.wr u op r ∈ w'.ev l) :
    Ev.wr u op r ∈ w.ev l ∨ (u = t ∧ r = (w.thr t).regs ∧ ∃ rest, (w.thr t).rest = .write l op :: rest) := by
  cases step_effect h l with
  | none he _ _ => exact Or.inl (he ▸ hm)
  | acq he _ _ _ | rel he _ _ _ => rw [he] at hm; exact Or.inl (by simpa using hm)
  | wr op' rest hr he _ _ =>
    rw [he] at hm
    rcases List.mem_cons.mp hm with h1 | h1
    · cases h1; exact Or.inr ⟨rfl, rfl, rest, hr⟩
    · exact Or.inl h1

def Excl (w : World) : Prop := ∀ l, (w.locks l).writer ≠ none → (w.locks l).readers = []

theorem step_excl {w w' : World} {t : Tid} (hE : Excl w) (h : step w t = some w') : Excl w' := by
  have cell : ∀ {l : Lid} {k' : RW}, (k'.writer ≠ none → k'.readers = []) → Excl { w with locks := upd w.locks l k' } :=
    fun hk => forall_upd (P := fun _ (k : RW) => k.writer ≠ none → k.readers = []) hE hk
  cases step_sound h with
  | rlock l rest hr hw hp => exact cell (fun h => absurd hw h)
  | runlock l rest hr hm => exact cell (fun h => by simp [hE l h])
  | lockAcq l rest hr hw hrd hp => exact cell (fun _ => hrd)
  | lockAnnounce l rest hr hw hrd hp => exact cell (fun h => absurd hw h)
  | unlock l rest hr hw => exact cell (fun h => absurd rfl h)
  | _ => exact hE

theorem wb_cons {h : Option (Lid × Bool)} {i : Instr} {rest : List Instr} (hwb : wb h (i :: rest) = true) :
    ∃ h', heldAfter h i = some h' ∧ wb h' rest = true := by
  unfold wb at hwb
  split at hwb
  · rename_i h' he; exact ⟨h', he, hwb⟩
  · cases hwb

/-- `heldAfter` read backwards: what an instruction requires of the lock held `h`, and what is held afterwards -/
def Fits (h h' : Option (Lid × Bool)) : Instr → Prop
  | .hook _ => h' = h
  | .rlock l => h = none ∧ h' = some (l, false)
  | .lock l => h = none ∧ h' = some (l, true)
  | .runlock l => h = some (l, false) ∧ h' = none
  | .unlock l => h = some (l, true) ∧ h' = none
  | .readHeads l | .readEntries l | .observe l => (∃ b, h = some (l, b)) ∧ h' = h
  | .write l _ => h = some (l, true) ∧ h' = h

theorem heldAfter_some {h h' : Option (Lid × Bool)} {i : Instr} (e : heldAfter h i = some h') : Fits h h' i := by
  cases i <;> rcases h with _ | ⟨l', _ | _⟩ <;> simp [heldAfter] at e <;> simp [Fits, e]

structure Coh (w : World) : Prop where
  wHeld : ∀ l t, (w.locks l).writer = some t → (w.thr t).held = some (l, true)
  rHeld : ∀ l t, t ∈ (w.locks l).readers → (w.thr t).held = some (l, false)
  heldW : ∀ l t, (w.thr t).held = some (l, true) → (w.locks l).writer = some t
  heldR : ∀ l t, (w.thr t).held = some (l, false) → t ∈ (w.locks l).readers
  pend : ∀ l t, (w.locks l).pending = some t → (w.thr t).held = none ∧ ∃ rest, (w.thr t).rest = .lock l :: rest
  nodup : ∀ l, (w.locks l).readers.Nodup
  wbT : ∀ t, wb (w.thr t).held (w.thr t).rest = true

theorem Coh.head {w : World} (hC : Coh w) {t : Tid} {i : Instr} {rest : List Instr}
    (hr : (w.thr t).rest = i :: rest) : ∃ h', Fits (w.thr t).held h' i ∧ wb h' rest = true :=
  let ⟨h', he, hwb⟩ := wb_cons (hr ▸ hC.wbT t)
  ⟨h', heldAfter_some he, hwb⟩

structure Agree (k : RW) (l : Lid) (t : Tid) (th : Thread) : Prop where
  w : k.writer = some t ↔ th.held = some (l, true)
  r : t ∈ k.readers ↔ th.held = some (l, false)
  p : k.pending = some t → th.held = none ∧ ∃ rest, th.rest = .lock l :: rest

theorem coh_iff {w : World} : Coh w ↔ (∀ l t, Agree (w.locks l) l t (w.thr t)) ∧
    (∀ l, (w.locks l).readers.Nodup) ∧ ∀ t, wb (w.thr t).held (w.thr t).rest = true :=
  ⟨fun h => ⟨fun l t => ⟨⟨h.wHeld l t, h.heldW l t⟩, ⟨h.rHeld l t, h.heldR l t⟩, h.pend l t⟩, h.nodup, h.wbT⟩,
   fun ⟨a, n, b⟩ => ⟨fun l t => (a l t).w.1, fun l t => (a l t).r.1, fun l t => (a l t).w.2,
     fun l t => (a l t).r.2, fun l t => (a l t).p, n, b⟩⟩

theorem Agree.far {k : RW} {l : Lid} {t : Tid} {th th' : Thread} (a : Agree k l t th)
    (h : ∀ b, th.held ≠ some (l, b)) (h' : ∀ b, th'.held ≠ some (l, b)) (hp : k.pending ≠ some t) :
    Agree k l t th' :=
  ⟨⟨fun e => absurd (a.w.1 e) (h true), fun e => absurd e (h' true)⟩,
   ⟨fun e => absurd (a.r.1 e) (h false), fun e => absurd e (h' false)⟩, fun e => absurd e hp⟩

theorem not_pending {w : World} {t : Tid} (hC : Coh w) {i : Instr} {rest : List Instr}
    (hr : (w.thr t).rest = i :: rest) (l : Lid) (hi : i ≠ .lock l) : (w.locks l).pending ≠ some t := by
  intro hp
  obtain ⟨_, r, hr'⟩ := hC.pend l t hp
  rw [hr] at hr'
  injection hr' with h1 _
  exact hi h1

theorem coh_lock {w w' : World} {t : Tid} {l : Lid} {k' : RW} {th' : Thread} (hC : Coh w)
    (hl : w'.locks = upd w.locks l k') (ht : w'.thr = upd w.thr t th')
    (htl : Agree k' l t th')
    (hcell : ∀ u, u ≠ t → (k'.writer = some u ↔ (w.locks l).writer = some u) ∧
      (u ∈ k'.readers ↔ u ∈ (w.locks l).readers) ∧ (k'.pending = some u → (w.locks l).pending = some u))
    (hfar : ∀ l', l' ≠ l → Agree (w.locks l') l' t th')
    (hnd : k'.readers.Nodup) (hwb : wb th'.held th'.rest = true) : Coh w' := by
  obtain ⟨hA, hN, hW⟩ := coh_iff.mp hC
  rw [coh_iff, hl, ht]
  refine ⟨fun l' u => ?_, forall_upd (P := fun _ (k : RW) => k.readers.Nodup) hN hnd,
    forall_upd (P := fun _ (th : Thread) => wb th.held th.rest = true) hW hwb⟩
  by_cases hl' : l' = l <;> by_cases hu : u = t
  · subst hl' hu; simpa using htl
  · subst hl'; rw [upd_same, upd_other _ _ hu]
    obtain ⟨h1, h2, h3⟩ := hcell u hu
    exact ⟨h1.trans (hA l' u).w, h2.trans (hA l' u).r, fun e => (hA l' u).p (h3 e)⟩
  · subst hu; rw [upd_same, upd_other _ _ hl']; exact hfar l' hl'
  · rw [upd_other _ _ hl', upd_other _ _ hu]; exact hA l' u

theorem coh_advance {w : World} {t : Tid} {i : Instr} {rest : List Instr} (hC : Coh w)
    (hr : (w.thr t).rest = i :: rest) (hi : ∀ l, i ≠ .lock l)
    (hh : ∀ h', Fits (w.thr t).held h' i → h' = (w.thr t).held)
    (regs : Regs) (logs : Lid → Log) (ev : Lid → List Ev) :
    Coh { logs := logs, locks := w.locks, thr := upd w.thr t { w.thr t with rest := rest, regs := regs }, ev := ev } := by
  obtain ⟨hA, hN, hW⟩ := coh_iff.mp hC
  refine coh_iff.mpr ⟨fun l => forall_upd (P := fun u th => Agree (w.locks l) l u th) (hA l) ?_, hN,
    forall_upd (P := fun _ (th : Thread) => wb th.held th.rest = true) hW ?_⟩
  · exact ⟨(hA l t).w, (hA l t).r, fun e => absurd e (not_pending hC hr l (hi l))⟩
  · obtain ⟨h', he, hwb'⟩ := hC.head hr
    exact hh h' he ▸ hwb'

theorem step_coh {w w' : World} {t : Tid} (hC : Coh w) (h : step w t = some w') : Coh w' := by
  obtain ⟨hA, hN, hW⟩ := coh_iff.mp hC
  cases step_sound h with
  | hook p rest hr => exact coh_advance hC hr nofun (fun _ e => e) ..
  | readHeads l rest hr | readEntries l rest hr | observe l rest hr =>
    exact coh_advance hC hr nofun (fun _ e => e.2) ..
  | write l op rest hr => exact coh_advance hC hr nofun (fun _ e => e.2) ..
  | rlock l rest hr hw hp =>
    obtain ⟨h', ⟨hnone, rfl⟩, hwb'⟩ := hC.head hr
    have hnr : t ∉ (w.locks l).readers := fun hm => nomatch hnone.symm.trans ((hA l t).r.1 hm)
    exact coh_lock hC rfl rfl ⟨by simp [hw], by simp, by simp [hp]⟩
      (fun u hu => ⟨Iff.rfl, by simp [hu], id⟩)
      (fun l' hl' => (hA l' t).far (by simp [hnone]) (by simp [Ne.symm hl']) (not_pending hC hr l' nofun))
      (List.nodup_cons.mpr ⟨hnr, hN l⟩) hwb'
  | runlock l rest hr hm =>
    obtain ⟨h', ⟨hheld, rfl⟩, hwb'⟩ := hC.head hr
    have hnw : (w.locks l).writer ≠ some t := fun e => nomatch hheld.symm.trans ((hA l t).w.1 e)
    exact coh_lock hC rfl rfl ⟨by simp [hnw], by simp [(hN l).mem_erase_iff], fun e => absurd e (not_pending hC hr l nofun)⟩
      (fun u hu => ⟨Iff.rfl, List.mem_erase_of_ne hu, id⟩)
      (fun l' hl' => (hA l' t).far (by simp [hheld, Ne.symm hl']) (by simp) (not_pending hC hr l' nofun))
      ((hN l).erase t) hwb'
  | lockAcq l rest hr hw hrd hp =>
    obtain ⟨h', ⟨hnone, rfl⟩, hwb'⟩ := hC.head hr
    exact coh_lock hC rfl rfl ⟨by simp, by simp [hrd], by simp⟩
      (fun u hu => ⟨by simp [hw, Ne.symm hu], Iff.rfl, nofun⟩)
      (fun l' hl' => (hA l' t).far (by simp [hnone]) (by simp [Ne.symm hl'])
        (not_pending hC hr l' (fun e => hl' (by cases e; rfl))))
      (hN l) hwb'
  | lockAnnounce l rest hr hw hrd hp =>
    obtain ⟨h', ⟨hnone, rfl⟩, hwb'⟩ := hC.head hr
    -- only the pending slot of cell `l` changes
    refine coh_iff.mpr ⟨fun l' u => ?_, forall_upd (P := fun _ (k : RW) => k.readers.Nodup) hN (hN l), hW⟩
    refine forall_upd (P := fun l' k => Agree k l' u (w.thr u)) (v := { w.locks l with pending := some t })
      (fun l' => hA l' u) ⟨(hA l u).w, (hA l u).r, fun e => ?_⟩ l'
    cases e
    exact ⟨hnone, rest, hr⟩
  | unlock l rest hr hw =>
    obtain ⟨h', ⟨hheld, rfl⟩, hwb'⟩ := hC.head hr
    have hnr : t ∉ (w.locks l).readers := fun hm => nomatch hheld.symm.trans ((hA l t).r.1 hm)
    exact coh_lock hC rfl rfl ⟨by simp, by simp [hnr], fun e => absurd e (not_pending hC hr l nofun)⟩
      (fun u hu => ⟨by simp [hw, Ne.symm hu], Iff.rfl, id⟩)
      (fun l' hl' => (hA l' t).far (by simp [hheld, Ne.symm hl']) (by simp) (not_pending hC hr l' nofun))
      (hN l) hwb'

structure Init (w : World) : Prop where
  locks : ∀ l, w.locks l = {}
  held : ∀ t, (w.thr t).held = none
  wbP : ∀ t, wb none (w.thr t).rest = true
  ev : ∀ l, w.ev l = []

theorem init_coh {w : World} (h : Init w) : Coh w :=
  coh_iff.mpr ⟨fun l t => by constructor <;> simp [h.locks l, h.held t], fun l => by simp [h.locks l],
    fun t => h.held t ▸ h.wbP t⟩

theorem init_excl {w : World} (h : ∀ l, w.locks l = {}) : Excl w := by
  intro l hw; rw [h l]

theorem holder_can_step {w : World} (hC : Coh w) {t : Tid} {l : Lid} {b : Bool}
    (hh : (w.thr t).held = some (l, b)) : ∃ w', step w t = some w' := by
  cases hr : (w.thr t).rest with
  | nil => have := hC.wbT t; rw [hh, hr] at this; cases this
  | cons i rest =>
    obtain ⟨h', hi, _⟩ := hC.head hr
    rw [hh] at hi
    cases i with
    | rlock l' => cases hi.1
    | lock l' => cases hi.1
    | runlock l' => cases hi.1; simp [step, hr, hC.heldR l t hh]
    | unlock l' => cases hi.1; simp [step, hr, hC.heldW l t hh]
    | _ => simp [step, hr]

theorem progress {w : World} (hC : Coh w) (hu : ∃ t, (w.thr t).rest ≠ []) : ∃ t w', step w t = some w' := by
  by_cases hh : ∃ t l b, (w.thr t).held = some (l, b)
  · obtain ⟨t, l, b, hheld⟩ := hh
    exact ⟨t, holder_can_step hC hheld⟩
  · have hw : ∀ l, (w.locks l).writer = none := fun l =>
      Option.eq_none_iff_forall_ne_some.mpr fun u e => hh ⟨u, l, true, hC.wHeld l u e⟩
    have hrd : ∀ l, (w.locks l).readers = [] := fun l =>
      List.eq_nil_iff_forall_not_mem.mpr fun u e => hh ⟨u, l, false, hC.rHeld l u e⟩
    obtain ⟨t, ht⟩ := hu
    cases hr : (w.thr t).rest with
    | nil => exact absurd hr ht
    | cons i rest =>
      obtain ⟨h', hi, _⟩ := hC.head hr
      -- a lock that has a pending writer: that writer can take it; otherwise `t` itself moves
      have hlock : ∀ l, (i = .rlock l ∨ i = .lock l) → ∃ t w', step w t = some w' := fun l hil => by
        cases hp : (w.locks l).pending with
        | none => exact ⟨t, by rcases hil with rfl | rfl <;> simp [step, hr, hw l, hrd l, hp]⟩
        | some u =>
          obtain ⟨_, rest', hr'⟩ := hC.pend l u hp
          exact ⟨u, by simp [step, hr', hw l, hrd l, hp]⟩
      cases i with
      | rlock l => exact hlock l (.inl rfl)
      | lock l => exact hlock l (.inr rfl)
      | runlock l => exact absurd ⟨t, l, false, hi.1⟩ hh
      | unlock l => exact absurd ⟨t, l, true, hi.1⟩ hh
      | _ => exact ⟨t, by simp [step, hr]⟩

def announced (w : World) (t : Tid) : Nat :=
  match (w.thr t).rest with
  | .lock l :: _ => if (w.locks l).pending = some t then 1 else 0
  | _ => 0

/-- bound on the number of moves thread `t` can still make: two per instruction, one less once announced -/
def budget (w : World) (t : Tid) : Nat := 2 * (w.thr t).rest.length - announced w t

theorem announced_le (w : World) (t : Tid) : announced w t ≤ 1 := by
  unfold announced; split
  · split <;> omega
  · omega

theorem announced_nil {w : World} {t : Tid} (h : (w.thr t).rest = []) : announced w t = 0 := by
  simp [announced, h]

theorem step_pending {w w' : World} {u t : Tid} (h : step w u = some w') (hne : u ≠ t) {l : Lid}
    (hp : (w.locks l).pending = some t) : (w'.locks l).pending = some t := by
  have cell : ∀ {l' : Lid} {k' : RW}, ((w.locks l').pending = some t → k'.pending = some t) →
      (upd w.locks l' k' l).pending = some t := fun hk =>
    forall_upd (P := fun j (k : RW) => (w.locks j).pending = some t → k.pending = some t) (fun _ h => h) hk l hp
  cases step_sound h with
  | rlock l' rest hr hw hp' => exact cell id
  | runlock l' rest hr hm => exact cell id
  | lockAcq l' rest hr hw hrd hp' =>
    exact cell fun e => by rcases hp' with hp' | hp' <;> rw [hp'] at e <;> cases e; exact absurd rfl hne
  | lockAnnounce l' rest hr hw hrd hp' => exact cell fun e => by rw [hp'] at e; cases e
  | unlock l' rest hr hw => exact cell id
  | _ => exact hp

theorem step_budget {w w' : World} {u : Tid} (t : Tid) (h : step w u = some w') :
    budget w' t + (if u = t then 1 else 0) ≤ budget w t := by
  have ha := announced_le w t
  have ha' := announced_le w' t
  split
  next e =>
    subst e
    rcases step_self h with ⟨l, rest, hr, hp, rfl⟩ | ⟨i, rest, hr, hr', _⟩
    · simp [budget, announced, hr, hp]; omega
    · simp only [budget, hr, hr', List.length_cons]; omega
  next hne =>
    have h1 := step_other h (Ne.symm hne)
    have hle : announced w t ≤ announced w' t := by
      unfold announced; rw [h1]
      split
      · split
        · rename_i hp; rw [if_pos (step_pending h hne hp)]; omega
        · omega
      · omega
    simp only [budget, h1]; omega

theorem exec_count (t : Tid) : ∀ (s : List Tid) (w w' : World), exec w s = some w' →
    s.count t + budget w' t ≤ budget w t
  | [], _, _, h => by cases h; simp
  | u :: us, w, w', h => by
    unfold exec at h
    split at h
    next w1 hs =>
      have ih := exec_count t us w1 w' h
      have hb := step_budget t hs
      simp only [List.count_cons, beq_iff_eq]
      omega
    · cases h

theorem budget_le (w : World) (t : Tid) : budget w t ≤ 2 * (w.thr t).rest.length := by
  unfold budget; omega

theorem write_held {w : World} (hC : Coh w) {t : Tid} {l : Lid} {op : WOp} {rest : List Instr}
    (hr : (w.thr t).rest = .write l op :: rest) : (w.locks l).writer = some t := by
  obtain ⟨h', hi, _⟩ := hC.head hr
  exact hC.heldW l t hi.1

def nextAccess (w : World) (t : Tid) : Option (Lid × Bool) :=
  match (w.thr t).rest with
  | i :: _ => i.accesses
  | [] => none

theorem Coh.held_locked {w : World} (hC : Coh w) {t : Tid} {l : Lid} :
    ∀ {b : Bool}, (w.thr t).held = some (l, b) → (w.locks l).writer = some t ∨ t ∈ (w.locks l).readers
  | true, h => .inl (hC.heldW l t h)
  | false, h => .inr (hC.heldR l t h)

theorem access_locked {w : World} (hC : Coh w) {t : Tid} {l : Lid} {b : Bool} (ha : nextAccess w t = some (l, b)) :
    (b = true → (w.locks l).writer = some t) ∧ ((w.locks l).writer = some t ∨ t ∈ (w.locks l).readers) := by
  unfold nextAccess at ha
  cases hr : (w.thr t).rest with
  | nil => rw [hr] at ha; cases ha
  | cons i rest =>
    rw [hr] at ha
    obtain ⟨h', hi, _⟩ := hC.head hr
    cases i with
    | readHeads l' | readEntries l' | observe l' =>
      cases ha; obtain ⟨⟨b', hb⟩, _⟩ := hi; exact ⟨nofun, hC.held_locked hb⟩
    | write l' op => cases ha; exact ⟨fun _ => hC.heldW _ t hi.1, hC.held_locked hi.1⟩
    | _ => cases ha

theorem writer_alone {w : World} (hE : Excl w) {t u : Tid} {l : Lid} (hw : (w.locks l).writer = some t)
    (hu : (w.locks l).writer = some u ∨ u ∈ (w.locks l).readers) : u = t := by
  rcases hu with h | h
  · exact Option.some.inj (h.symm.trans hw)
  · rw [hE l (hw ▸ nofun)] at h; cases h

theorem no_conflict {w : World} (hC : Coh w) (hE : Excl w) {t u : Tid} (htu : t ≠ u) {l : Lid} {b : Bool}
    (ht : nextAccess w t = some (l, true)) (hu : nextAccess w u = some (l, b)) : False :=
  htu (writer_alone hE ((access_locked hC ht).1 rfl) (access_locked hC hu).2).symm

theorem holder_owns {w w' : World} (hC : Coh w) (hE : Excl w) {t u : Tid} {l : Lid} {b : Bool}
    (hh : (w.thr t).held = some (l, b)) (htu : u ≠ t) (h : step w u = some w') : w'.logs l = w.logs l := by
  cases step_effect h l with
  | wr op rest hr _ _ _ => exact absurd (writer_alone hE (write_held hC hr) (hC.held_locked hh)).symm htu
  | _ => assumption

def WritesOK (P : Log → Prop) (w : World) : Prop :=
  ∀ t l op, Instr.write l op ∈ (w.thr t).rest → ∀ r log, P log → P (applyW op r log).1

theorem rest_subset {w w' : World} {t u : Tid} (h : step w t = some w') :
    ∀ i, i ∈ (w'.thr u).rest → i ∈ (w.thr u).rest := by
  intro i hi
  rcases step_thr h u with e | ⟨rfl, j, rest, hr, hr', _⟩
  · rwa [e] at hi
  · rw [hr]; rw [hr'] at hi; exact List.mem_cons_of_mem _ hi

theorem step_writesOK {P : Log → Prop} {w w' : World} {t : Tid} (hW : WritesOK P w) (h : step w t = some w') :
    WritesOK P w' := fun u l op hm => hW u l op (rest_subset h _ hm)

theorem step_logs_inv {P : Log → Prop} {w w' : World} {t : Tid} (hW : WritesOK P w) (hP : ∀ l, P (w.logs l))
    (h : step w t = some w') : ∀ l, P (w'.logs l) := fun l => by
  cases step_effect h l with
  | wr op rest hr _ hl _ => rw [hl]; exact hW t l op (by rw [hr]; simp) _ _ (hP l)
  | _ => rw [‹w'.logs l = w.logs l›]; exact hP l

end Model.Conc
