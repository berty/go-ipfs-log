import Proofs.ConcLog
/-!
# Proofs.ConcJoin — what a merge has read from the other log (C14)

`past init evs n` is the state of a log after its first `n` events.  `readsThenWrites` is the shape of a merge
program (heads, then entries, then the write); `StageAt` says what the registers of a thread hold at stage `n` of
such a program: the heads of a past state of the source, then also the entries of a later one.  `JoinInv` follows
a thread through the program and keeps this for the registers its writes recorded; along a run: `reads_ordered`.
-/
namespace Model.Conc
open Model

/-- the state of a log after its first (oldest) `n` events; `evs` is newest first -/
def past (init : Log) (evs : List Ev) (n : Nat) : Log := replay init (evs.drop (evs.length - n))

theorem past_cons (init : Log) (e : Ev) (evs : List Ev) {n : Nat} (h : n ≤ evs.length) :
    past init (e :: evs) n = past init evs n := by
  rw [past, List.length_cons, Nat.succ_sub h, List.drop_succ_cons, past]

theorem past_full (init : Log) (evs : List Ev) : past init evs evs.length = replay init evs := by
  simp [past]

theorem past_grows (init : Log) (evs : List Ev) (hu : ∀ t op r, Ev.wr t op r ∈ evs → op.unbounded)
    {a b : Nat} (hab : a ≤ b) (hb : b ≤ evs.length) :
    ∀ x ∈ (past init evs a).entries, x ∈ (past init evs b).entries := by
  unfold past
  have hsplit := (List.take_append_drop (b - a) (evs.drop (evs.length - b))).symm
  rw [List.drop_drop, show evs.length - b + (b - a) = evs.length - a by omega] at hsplit
  intro x hx
  rw [hsplit]
  exact replay_grows _ _ _ (fun t op r hm => hu t op r (List.mem_of_mem_drop (List.mem_of_mem_take hm))) x hx

/-- checked on the program text, like `wb`; stage `n`: 0 nothing read, 1 the heads of `src`, 2 then its entries -/
def readsThenWrites (src : Lid) : Nat → List Instr → Bool
  | _, [] => true
  | n, .readHeads l :: rest => l == src && n == 0 && readsThenWrites src 1 rest
  | n, .readEntries l :: rest => l == src && n == 1 && readsThenWrites src 2 rest
  | n, .write _ _ :: rest => n == 2 && readsThenWrites src 2 rest
  | n, _ :: rest => readsThenWrites src n rest

/-- what the registers `r` hold at stage `n`, `evs` being the events of the source -/
def StageAt (init : Log) (evs : List Ev) (r : Regs) (n : Nat) : Prop :=
  ∃ a b, a ≤ b ∧ b ≤ evs.length ∧
    (1 ≤ n → r.hs = (past init evs a).heads) ∧ (2 ≤ n → r.es = (past init evs b).entries)

theorem stageAt_step {w w' : World} {u : Tid} (h : step w u = some w') {init : Log} {l : Lid} {r : Regs} {n : Nat}
    (hs : StageAt init (w.ev l) r n) : StageAt init (w'.ev l) r n := by
  rcases step_ev h l with he | ⟨e, he⟩
  · rwa [he]
  · obtain ⟨a, b, hab, hb, h1, h2⟩ := hs
    rw [he]
    exact ⟨a, b, hab, Nat.le_succ_of_le hb, (past_cons init e _ (Nat.le_trans hab hb)).symm ▸ h1,
      (past_cons init e _ hb).symm ▸ h2⟩

theorem stage_advance {w0 w : World} {t : Tid} {src : Lid} (hR : w.logs src = replay (w0.logs src) (w.ev src))
    {n : Nat} {i : Instr} {rest : List Instr} (hn : readsThenWrites src n (i :: rest) = true)
    (hs : StageAt (w0.logs src) (w.ev src) (w.thr t).regs n) :
    ∃ n', readsThenWrites src n' rest = true ∧ StageAt (w0.logs src) (w.ev src) (regsAfter w t i) n' := by
  obtain ⟨a, b, hab, hb, h1, h2⟩ := hs
  have hnow : w.logs src = past (w0.logs src) (w.ev src) (w.ev src).length := hR.trans (past_full _ _).symm
  cases i with
  | readHeads l =>
    simp only [readsThenWrites, Bool.and_eq_true, beq_iff_eq] at hn
    obtain ⟨⟨rfl, rfl⟩, hn⟩ := hn
    exact ⟨1, hn, _, _, Nat.le_refl _, Nat.le_refl _, fun _ => congrArg Log.heads hnow, nofun⟩
  | readEntries l =>
    simp only [readsThenWrites, Bool.and_eq_true, beq_iff_eq] at hn
    obtain ⟨⟨rfl, rfl⟩, hn⟩ := hn
    exact ⟨2, hn, a, _, Nat.le_trans hab hb, Nat.le_refl _, fun _ => h1 (Nat.le_refl _), fun _ => congrArg Log.entries hnow⟩
  | write l op =>
    simp only [readsThenWrites, Bool.and_eq_true, beq_iff_eq] at hn
    obtain ⟨e1, e2⟩ := applyW_regs op (w.thr t).regs (w.logs l)
    exact ⟨2, hn.2, a, b, hab, hb, fun h => e1.trans (h1 (hn.1 ▸ h)), fun h => e2.trans (h2 (hn.1 ▸ h))⟩
  | _ => exact ⟨n, hn, a, b, hab, hb, h1, h2⟩

structure JoinInv (w0 w : World) (t : Tid) (src : Lid) : Prop where
  pos : ∃ n, readsThenWrites src n (w.thr t).rest = true ∧ StageAt (w0.logs src) (w.ev src) (w.thr t).regs n
  evs : ∀ l op r, Ev.wr t op r ∈ w.ev l → StageAt (w0.logs src) (w.ev src) r 2

theorem step_joinInv {w0 w w' : World} {t u : Tid} {src : Lid} (hR : w.logs src = replay (w0.logs src) (w.ev src))
    (hJ : JoinInv w0 w t src) (h : step w u = some w') : JoinInv w0 w' t src := by
  obtain ⟨n, hn, hs⟩ := hJ.pos
  constructor
  · rcases step_thr h t with e | ⟨rfl, i, rest, hr, h2, h3⟩
    · rw [e]; exact ⟨n, hn, stageAt_step h hs⟩
    · obtain ⟨n', hn', hs'⟩ := stage_advance hR (hr ▸ hn) hs
      rw [h2, h3]; exact ⟨n', hn', stageAt_step h hs'⟩
  · intro l op r hm
    refine stageAt_step h ?_
    -- a new record is `t`'s own write, made with the registers it has at stage 2
    rcases step_ev_wr h hm with h1 | ⟨rfl, rfl, rest, hr⟩
    · exact hJ.evs l op r h1
    · rw [hr] at hn
      simp only [readsThenWrites, Bool.and_eq_true, beq_iff_eq] at hn
      exact hn.1 ▸ hs

theorem joinInv_init {w0 : World} {t : Tid} {src : Lid}
    (hev : ∀ l, w0.ev l = []) (hp : readsThenWrites src 0 (w0.thr t).rest = true) : JoinInv w0 w0 t src :=
  ⟨⟨0, hp, 0, 0, Nat.le_refl _, Nat.zero_le _, nofun, nofun⟩,
   fun l op r hm => by rw [hev l] at hm; cases hm⟩

theorem reads_ordered {w0 : World} (hI : Init w0) {t : Tid} {src : Lid}
    (hp : readsThenWrites src 0 (w0.thr t).rest = true) (s : List Tid) {l : Lid} {op : WOp} {r : Regs}
    (hev : Ev.wr t op r ∈ (run w0 s).ev l) :
    ∃ a b, a ≤ b ∧ b ≤ ((run w0 s).ev src).length ∧
      r.hs = (past (w0.logs src) ((run w0 s).ev src) a).heads ∧
      r.es = (past (w0.logs src) ((run w0 s).ev src) b).entries := by
  obtain ⟨-, hJ⟩ := run_inv (P := fun w => Good w0 w ∧ JoinInv w0 w t src)
    (fun _ _ _ hp h => ⟨step_good hp.1 h, step_joinInv (hp.1.rep src) hp.2 h⟩) s w0
    ⟨good_init hI, joinInv_init hI.ev hp⟩
  obtain ⟨a, b, hab, hb, h1, h2⟩ := hJ.evs l op r hev
  exact ⟨a, b, hab, hb, h1 (by decide), h2 (Nat.le_refl _)⟩

end Model.Conc
